/-
  Development tool (not part of any proof): searches, in the *model*, a winning (actions, draws)
  certificate for every layout the shipped `dynamic_obstacles` parameter sets can produce, and prints
  the Lean data file `GridVerse/Props/C14ObstaclesData.lean`.  The certificates are re-checked by the
  kernel in `Props/C14ObstaclesCk.lean` (`decide +kernel`, on a sparse form of the room proved to be
  accepted by `checkPlan`), so nothing here is trusted.
  usage: lake env lean --run Tools/GenObstacleCerts.lean > GridVerse/Props/C14ObstaclesData.lean
-/
import GridVerse.Model.Win
import GridVerse.Model.Reset
import Std.Data.HashSet
open GV

def chain : List TransAtom := [.moveAgent, .turnAgent, .moveObstacles]
def stopF : State → Action → State → Bool := stopOf (.any [.reachExit, .bumpObstacle, .bumpWall])

def answerVecs : Nat → List (List Nat)
  | 0 => [[]]
  | n+1 => (answerVecs n).flatMap fun v => [0, 1, 2, 3].map (· :: v)

def key (s : State) : String :=
  toString s.agent.pos.y ++ "," ++ toString s.agent.pos.x ++ ":" ++
    String.intercalate ";" ((s.grid.find fun o => o.isKind .obstacle).map fun p => toString p.y ++ "," ++ toString p.x)

partial def bfs (n : Nat) (frontier : List (State × List (Action × List Nat))) (seen : Std.HashSet String) :
    Option (List (Action × List Nat)) := Id.run do
  if frontier.isEmpty then return none
  let mut next : List (State × List (Action × List Nat)) := []
  let mut seen := seen
  for (s, plan) in frontier do
    for a in [Action.moveF, .moveB, .moveL, .moveR] do
      for v in answerVecs n do
        match runChain chain s a ⟨v, []⟩ with
        | .error _ => pure ()
        | .ok (s', d') =>
          let used := v.take (v.length - d'.ans.length)
          if goalExit s' then return some ((a, used) :: plan).reverse
          if stopF s a s' then pure ()
          else if seen.contains (key s') then pure ()
          else
            seen := seen.insert (key s')
            next := (s', (a, used) :: plan) :: next
  bfs n next seen

def showAct : Action → String
  | .moveF => ".moveF" | .moveB => ".moveB" | .moveL => ".moveL" | .moveR => ".moveR"
  | .turnL => ".turnL" | .turnR => ".turnR" | .actuate => ".actuate" | .pickNDrop => ".pickNDrop"

def cert (s : State) (n : Nat) : String :=
  match bfs n [(s, [])] (Std.HashSet.emptyWithCapacity.insert (key s)) with
  | none => "([], [])  -- NO CERTIFICATE FOUND"
  | some plan =>
    let acts := plan.map (·.1)
    let draws := plan.flatMap (·.2)
    "([" ++ String.intercalate ", " (acts.map showAct) ++ "], " ++ toString draws ++ ")"

/-- the state `resetDynamicObstacles` builds from the picked indices (second half of the function) -/
def obstacleState (s0 : State) (idx : List Nat) : Option State :=
  let vac := (floorPositions s0.grid).filter fun p => p != s0.agent.pos
  match drawAll s0.grid (idx.map fun i => vac.getD i ⟨0, 0⟩) .obstacle with
  | .error _ => none
  | .ok g => some { s0 with grid := g }

def table (name : String) (sh : Shape) (idxs : List (List Nat)) (n : Nat) : IO Unit := do
  match resetEmpty sh false false ⟨[], []⟩ with
  | .error _ => IO.println "-- resetEmpty failed"
  | .ok (s0, _) =>
    IO.println s!"def {name} : List (List Nat × (List Action × List Nat)) := ["
    let rows := idxs.map fun idx =>
      match obstacleState s0 idx with
      | none => s!"  ({idx}, ([], []))  -- no state"
      | some s => s!"  ({idx}, {cert s n})"
    IO.println (String.intercalate ",\n" rows)
    IO.println "]"

def main : IO Unit := do
  IO.println "/- GENERATED ONCE by Tools/GenObstacleCerts.lean (model-side search); static data, re-checked by the kernel in Props/C14Obstacles.lean. -/"
  IO.println "import GridVerse.Model.Win"
  IO.println "namespace GV.Cert"
  IO.println ""
  table "obstacles5x5" ⟨5, 5⟩ ((List.range 7).map fun i => [i]) 1
  IO.println ""
  let pairs := (List.range 23).flatMap fun i => ((List.range 23).filter (· != i)).map fun j => [i, j]
  table "obstacles7x7" ⟨7, 7⟩ pairs 2
  IO.println ""
  IO.println "end GV.Cert"
