/-
  The two occluding visibility functions of `Model/Visibility.lean` in the terms the properties are
  stated in.  The flood fill of `partially_occluded` marks, given enough fuel for the recursion
  depth, exactly the cells reachable from the origin through transparent cells (`mem_mkVis_iff`).
  A ray of `raytracing` reaches a cell lit iff the cell sits at an index with only transparent
  cells before it (`lit_iff`), and the mask shows the cells that some ray reaches lit.
-/
import GridVerse.Model.Visibility
import GridVerse.Lemmas.Grid
namespace GV

/-! ### flood fill -/

theorem mkVis_succ (opq inGrid : Pos → Bool) (next : Pos → List Pos) (fuel : Nat) (vis : List Pos)
    (p : Pos) : mkVis opq inGrid next (fuel + 1) vis p =
      if inGrid p = true ∧ p ∉ vis then
        if opq p = false then (next p).foldl (mkVis opq inGrid next fuel) (p :: vis) else p :: vis
      else vis := by
  simp only [mkVis, Bool.and_eq_true, Bool.not_eq_true', List.contains_eq_mem,
    decide_eq_false_iff_not]

/-- reachable from the origin through in-grid cells, every cell before the last transparent -/
inductive Reach (opq inGrid : Pos → Bool) (next : Pos → List Pos) (origin : Pos) : Pos → Prop
  | origin : inGrid origin = true → Reach opq inGrid next origin origin
  | step (parent q : Pos) : Reach opq inGrid next origin parent → opq parent = false →
      q ∈ next parent → inGrid q = true → Reach opq inGrid next origin q

theorem Reach.inGrid {opq inGrid next origin q} (h : Reach opq inGrid next origin q) :
    inGrid q = true := by
  cases h with
  | origin h => exact h
  | step _ _ _ _ _ h => exact h

/-- reachability carried over to another opacity map.  The hypothesis may use that the cell is
reachable under either map (the induction has both at hand): `mono` needs neither, the two
directions of `congr` one each. -/
theorem Reach.imp {opq opq' inGrid next origin q}
    (h : ∀ c, Reach opq inGrid next origin c → Reach opq' inGrid next origin c →
      opq c = false → opq' c = false)
    (hq : Reach opq inGrid next origin q) : Reach opq' inGrid next origin q := by
  induction hq with
  | origin hin => exact Reach.origin hin
  | step parent q hp ho hq hin ih => exact Reach.step parent q ih (h parent hp ih ho) hq hin

theorem Reach.mono {opq opq' inGrid next origin q} (hle : ∀ c, opq' c = true → opq c = true)
    (h : Reach opq inGrid next origin q) : Reach opq' inGrid next origin q :=
  h.imp fun c _ _ ho => Bool.eq_false_iff.mpr fun h' => Bool.noConfusion ((hle c h').symm.trans ho)

theorem Reach.congr {opq opq' inGrid : Pos → Bool} {next origin}
    (h : ∀ c, Reach opq inGrid next origin c → opq' c = opq c) (q : Pos) :
    Reach opq' inGrid next origin q ↔ Reach opq inGrid next origin q :=
  ⟨Reach.imp fun c _ hc ho => h c hc ▸ ho, Reach.imp fun c hc _ ho => (h c hc).trans ho⟩

/-- what a call of the flood does to the marked set: it only adds cells, and every transparent cell
it adds has all its in-grid successors marked on return (a cell marked before the call may still be
waiting for its own, further up the recursion) -/
def ClosedExt (opq inGrid : Pos → Bool) (next : Pos → List Pos) (old new : List Pos) : Prop :=
  old ⊆ new ∧
    ∀ c ∈ new, c ∉ old → opq c = false → ∀ n ∈ next c, inGrid n = true → n ∈ new

theorem ClosedExt.refl {opq inGrid next} (v : List Pos) : ClosedExt opq inGrid next v v :=
  ⟨fun _ h => h, fun _ hc hnc => absurd hc hnc⟩

theorem ClosedExt.trans {opq inGrid next} {a b c : List Pos} (h1 : ClosedExt opq inGrid next a b)
    (h2 : ClosedExt opq inGrid next b c) : ClosedExt opq inGrid next a c := by
  refine ⟨fun _ h => h2.1 (h1.1 h), fun x hx hxa ho n hn hin => ?_⟩
  by_cases hxb : x ∈ b
  · exact h2.1 (h1.2 x hxb hxa ho n hn hin)
  · exact h2.2 x hx hxb ho n hn hin

theorem ClosedExt.cons {opq inGrid next} {p : Pos} {vis new : List Pos}
    (h : ClosedExt opq inGrid next (p :: vis) new)
    (hp : opq p = false → ∀ n ∈ next p, inGrid n = true → n ∈ new) :
    ClosedExt opq inGrid next vis new := by
  refine ⟨fun _ hx => h.1 (List.mem_cons_of_mem _ hx), fun c hc hnc ho => ?_⟩
  by_cases hcp : c = p
  · exact hcp ▸ hp (hcp ▸ ho)
  · exact h.2 c hc (fun hm => (List.mem_cons.mp hm).elim hcp hnc) ho

theorem ClosedExt.foldl {opq inGrid next} {f : List Pos → Pos → List Pos} (l : List Pos)
    (hf : ∀ v, ∀ a ∈ l, ClosedExt opq inGrid next v (f v a) ∧ (inGrid a = true → a ∈ f v a))
    (v : List Pos) :
    ClosedExt opq inGrid next v (l.foldl f v) ∧ ∀ a ∈ l, inGrid a = true → a ∈ l.foldl f v := by
  induction l generalizing v with
  | nil => exact ⟨ClosedExt.refl v, fun _ ha => nomatch ha⟩
  | cons a l ih =>
    obtain ⟨e1, m1⟩ := hf v a List.mem_cons_self
    obtain ⟨e2, m2⟩ := ih (fun v b hb => hf v b (List.mem_cons_of_mem _ hb)) (f v a)
    refine ⟨e1.trans e2, fun b hb hin => ?_⟩
    rcases List.mem_cons.mp hb with rfl | hb
    · exact e2.1 (m1 hin)
    · exact m2 b hb hin

/-- the invariant of the depth-first flood: a call extends the marked set by closed cells and marks
its own cell.  `μ` bounds the recursion depth still needed, so that the fuel never runs out. -/
theorem mkVis_ext (opq inGrid : Pos → Bool) (next : Pos → List Pos) (μ : Pos → Nat)
    (hμ : ∀ p n, inGrid p = true → n ∈ next p → inGrid n = true → μ n < μ p)
    (fuel : Nat) (vis : List Pos) (p : Pos) (hf : inGrid p = true → μ p < fuel) :
    ClosedExt opq inGrid next vis (mkVis opq inGrid next fuel vis p) ∧
    (inGrid p = true → p ∈ mkVis opq inGrid next fuel vis p) := by
  induction fuel generalizing vis p with
  | zero => exact ⟨ClosedExt.refl vis, fun h => absurd (hf h) (Nat.not_lt_zero _)⟩
  | succ n ih =>
    rw [mkVis_succ]
    split
    · rename_i hc
      obtain ⟨hin, -⟩ := hc
      split
      · obtain ⟨e, hm⟩ := ClosedExt.foldl (next p) (fun v a ha => ih v a fun hia =>
          Nat.lt_of_lt_of_le (hμ p a hin ha hia) (Nat.le_of_lt_succ (hf hin))) (p :: vis)
        exact ⟨e.cons fun _ => hm, fun _ => e.1 List.mem_cons_self⟩
      · rename_i ho
        exact ⟨(ClosedExt.refl _).cons fun h => absurd h ho, fun _ => List.mem_cons_self⟩
    · rename_i hc
      exact ⟨ClosedExt.refl vis, fun hin => Decidable.not_not.mp fun h => hc ⟨hin, h⟩⟩

theorem mkVis_complete (opq inGrid : Pos → Bool) (next : Pos → List Pos) (μ : Pos → Nat)
    (hμ : ∀ p n, inGrid p = true → n ∈ next p → inGrid n = true → μ n < μ p)
    (fuel : Nat) (origin : Pos) (hf : inGrid origin = true → μ origin < fuel) (q : Pos)
    (h : Reach opq inGrid next origin q) : q ∈ mkVis opq inGrid next fuel [] origin := by
  obtain ⟨⟨-, h2⟩, h1⟩ := mkVis_ext opq inGrid next μ hμ fuel [] origin hf
  induction h with
  | origin hin => exact h1 hin
  | step parent q _ ho hq hin ih => exact h2 parent ih List.not_mem_nil ho q hq hin

theorem mkVis_reach (opq inGrid : Pos → Bool) (next : Pos → List Pos) (origin : Pos) (fuel : Nat)
    (vis : List Pos) (p : Pos) (hp : inGrid p = true → Reach opq inGrid next origin p)
    (hv : ∀ q ∈ vis, Reach opq inGrid next origin q) :
    ∀ q ∈ mkVis opq inGrid next fuel vis p, Reach opq inGrid next origin q := by
  induction fuel generalizing vis p with
  | zero => exact hv
  | succ n ih =>
    rw [mkVis_succ]
    split
    · rename_i hc
      have hp' := hp hc.1
      have hv' : ∀ q ∈ p :: vis, Reach opq inGrid next origin q :=
        List.forall_mem_cons.mpr ⟨hp', hv⟩
      split
      · rename_i ho
        exact List.foldlRecOn (motive := fun v => ∀ q ∈ v, Reach opq inGrid next origin q) (next p) _
          hv' fun v hv a ha => ih v a (fun hin => Reach.step p a hp' ho ha hin) hv
      · exact hv'
    · exact hv

theorem mkVis_sound (opq inGrid : Pos → Bool) (next : Pos → List Pos) (fuel : Nat) (origin : Pos)
    (q : Pos) (h : q ∈ mkVis opq inGrid next fuel [] origin) : Reach opq inGrid next origin q :=
  mkVis_reach opq inGrid next origin fuel [] origin Reach.origin (by simp) q h

theorem mem_mkVis_iff (opq inGrid : Pos → Bool) (next : Pos → List Pos) (μ : Pos → Nat)
    (hμ : ∀ p n, inGrid p = true → n ∈ next p → inGrid n = true → μ n < μ p)
    (fuel : Nat) (origin : Pos) (hf : inGrid origin = true → μ origin < fuel) (q : Pos) :
    q ∈ mkVis opq inGrid next fuel [] origin ↔ Reach opq inGrid next origin q :=
  ⟨mkVis_sound opq inGrid next fuel origin q, mkVis_complete opq inGrid next μ hμ fuel origin hf q⟩

theorem mkVis_monotone (opq opq' inGrid : Pos → Bool) (next : Pos → List Pos) (μ : Pos → Nat)
    (hμ : ∀ p n, inGrid p = true → n ∈ next p → inGrid n = true → μ n < μ p)
    (fuel : Nat) (origin : Pos) (hf : inGrid origin = true → μ origin < fuel)
    (hle : ∀ c, opq' c = true → opq c = true) (q : Pos)
    (h : q ∈ mkVis opq inGrid next fuel [] origin) : q ∈ mkVis opq' inGrid next fuel [] origin :=
  mkVis_complete opq' inGrid next μ hμ fuel origin hf q
    (Reach.mono hle (mkVis_sound opq inGrid next fuel origin q h))

/-! ### the two floods of `partially_occluded` -/

/-- the opacity map of a view grid -/
def Grid.opq (g : Grid) : Pos → Bool := fun q => (g.at q).blocksVision

theorem mem_floodLeft (g : Grid) (p q : Pos) :
    q ∈ floodLeft g p ↔ Reach g.opq g.contains poNextLeft p q := by
  -- each call moves up or to the left, so `y + x` falls along the recursion, and inside the grid
  -- `floodFuel` exceeds it
  refine mem_mkVis_iff _ _ _ (fun c => (c.y + c.x + 1).toNat) (fun c n hc hn hn' => ?_) _ _
    (fun hp => ?_) q
  · rw [Grid.contains_iff] at hc hn'
    simp only [poNextLeft, List.mem_cons, List.not_mem_nil, or_false] at hn
    rcases hn with rfl | rfl | rfl <;> simp only [] at hn' ⊢ <;> omega
  · rw [Grid.contains_iff] at hp
    simp only [floodFuel]; omega

theorem mem_floodRight (g : Grid) (p q : Pos) :
    q ∈ floodRight g p ↔ Reach g.opq g.contains poNextRight p q := by
  -- up or to the right: the same with the distance to the right edge in place of `x`
  refine mem_mkVis_iff _ _ _ (fun c => (c.y + ((g.w : Int) - 1 - c.x) + 1).toNat)
    (fun c n hc hn hn' => ?_) _ _ (fun hp => ?_) q
  · rw [Grid.contains_iff] at hc hn'
    simp only [poNextRight, List.mem_cons, List.not_mem_nil, or_false] at hn
    rcases hn with rfl | rfl | rfl <;> simp only [] at hn' ⊢ <;> omega
  · rw [Grid.contains_iff] at hp
    simp only [floodFuel]; omega

theorem visPartiallyOccluded_ok_iff (g : Grid) (p : Pos) (m : Mask) :
    visPartiallyOccluded g p = .ok m ↔ p.y = (g.h : Int) - 1 ∧ ∀ q, m q = true ↔
      (Reach g.opq g.contains poNextLeft p q ∨ Reach g.opq g.contains poNextRight p q) := by
  unfold visPartiallyOccluded
  split
  · rename_i h; exact ⟨fun e => (by cases e), fun e => absurd e.1 h⟩
  · rename_i h
    simp only [Except.ok.injEq, Decidable.not_not.mp h, true_and, ← mem_floodLeft, ← mem_floodRight]
    rw [eq_comm, funext_iff]
    exact forall_congr' fun q => by
      rw [Bool.eq_iff_iff, Bool.or_eq_true, List.contains_eq_mem, List.contains_eq_mem,
        decide_eq_true_eq, decide_eq_true_eq]

/-! ### rays -/

theorem rayMarks_congr (g g' : Grid) (light : Bool) (r : Ray)
    (h : ∀ q, (g'.at q).blocksVision ≠ (g.at q).blocksVision → (q, true) ∉ rayMarks g light r) :
    rayMarks g' light r = rayMarks g light r := by
  induction r generalizing light with
  | nil => rfl
  | cons p ps ih =>
    -- the light carried past `p` is the same: either `p` is as opaque in both, or the ray is dark
    have hl : (light && !(g'.at p).blocksVision) = (light && !(g.at p).blocksVision) := by
      by_cases hne : (g'.at p).blocksVision = (g.at p).blocksVision
      · rw [hne]
      · cases light
        · rfl
        · exact absurd List.mem_cons_self (h p hne)
    simp only [rayMarks, hl]
    rw [ih _ fun q hq hmem => h q hq (List.mem_cons_of_mem _ hmem)]

theorem lit_iff (g : Grid) (light : Bool) (r : Ray) (q : Pos) :
    (q, true) ∈ rayMarks g light r ↔
      light = true ∧ ∃ k, r[k]? = some q ∧ ∀ p ∈ r.take k, (g.at p).blocksVision = false := by
  induction r generalizing light with
  | nil => simp [rayMarks]
  | cons p ps ih =>
    simp only [rayMarks, List.mem_cons, Prod.mk.injEq, ih, Bool.and_eq_true, Bool.not_eq_true']
    constructor
    -- `take (k + 1)` of `p :: ps` is by definition `p :: take k ps`
    · rintro (⟨rfl, hl⟩ | ⟨⟨hl, hp⟩, k, hk, ht⟩)
      · exact ⟨hl.symm, 0, rfl, fun _ hx => nomatch hx⟩
      · exact ⟨hl, k + 1, hk, List.forall_mem_cons.mpr ⟨hp, ht⟩⟩
    · rintro ⟨hl, k, hk, ht⟩
      cases k with
      | zero => exact Or.inl ⟨(Option.some.inj hk).symm, hl.symm⟩
      | succ k =>
        obtain ⟨hp, ht⟩ := List.forall_mem_cons.mp ht
        exact Or.inr ⟨⟨hl, hp⟩, k, hk, ht⟩

theorem countsNum_pos_iff (g : Grid) (rays : List Ray) (q : Pos) :
    1 ≤ countsNum g rays q ↔ ∃ r ∈ rays, (q, true) ∈ rayMarks g true r := by
  show 0 < _ ↔ _
  rw [countsNum, List.sum_pos_iff_exists_pos_nat]
  constructor
  · rintro ⟨x, hx, hpos⟩
    obtain ⟨r, hr, rfl⟩ := List.mem_map.mp hx
    obtain ⟨⟨p, b⟩, hm, hpb⟩ := List.length_filter_pos_iff.mp hpos
    simp only [Bool.and_eq_true, beq_iff_eq] at hpb
    obtain ⟨rfl, rfl⟩ := hpb
    exact ⟨r, hr, hm⟩
  · rintro ⟨r, hr, hm⟩
    exact ⟨_, List.mem_map.mpr ⟨r, hr, rfl⟩,
      List.length_filter_pos_iff.mpr ⟨_, hm, by simp only [beq_self_eq_true, Bool.and_self]⟩⟩

theorem visRaytracing_iff (g : Grid) (rays : List Ray) (q : Pos) :
    visRaytracing g rays q = true ↔ ∃ r ∈ rays, (q, true) ∈ rayMarks g true r := by
  simp only [visRaytracing, decide_eq_true_eq, countsNum_pos_iff]

theorem visRaytracing_iff_clear (g : Grid) (rays : List Ray) (q : Pos) :
    visRaytracing g rays q = true ↔
      ∃ r ∈ rays, ∃ k, r[k]? = some q ∧ ∀ p ∈ r.take k, (g.at p).blocksVision = false := by
  simp only [visRaytracing_iff, lit_iff, true_and]

theorem visRaytracing_head (g : Grid) (rays : List Ray) (r : Ray) (hr : r ∈ rays) (p : Pos)
    (h : r.head? = some p) : visRaytracing g rays p = true :=
  (visRaytracing_iff_clear g rays p).mpr
    ⟨r, hr, 0, by rw [← h, List.head?_eq_getElem?], fun _ hx => by cases hx⟩

theorem visRaytracingChecked_ok_iff (rays : List Ray) (g : Grid) (p : Pos) (m : Mask) :
    visRaytracingChecked rays g p = .ok m ↔ g.contains p = true ∧ m = visRaytracing g rays := by
  unfold visRaytracingChecked
  split
  · rename_i h
    simp only [Except.ok.injEq, h, true_and]
    exact eq_comm
  · rename_i h; exact ⟨fun e => (by cases e), fun e => absurd e.1 h⟩

/-! ### further characterisations, which no proof of the development uses -/

/-- "linked to the origin": the origin itself, or reached through `next` from a linked,
transparent, marked cell -/
inductive Linked (opq : Pos → Bool) (next : Pos → List Pos) (origin : Pos) (marked : List Pos) : Pos → Prop
  | origin : Linked opq next origin marked origin
  | step (parent q : Pos) : Linked opq next origin marked parent → parent ∈ marked → opq parent = false →
      q ∈ next parent → Linked opq next origin marked q

theorem Linked.mono {opq next origin} {m m' : List Pos} (hm : m ⊆ m') {q : Pos}
    (h : Linked opq next origin m q) : Linked opq next origin m' q := by
  induction h with
  | origin => exact Linked.origin
  | step parent q _ hp ho hq ih => exact Linked.step parent q ih (hm hp) ho hq

/-- cells a ray reaches lit -/
def litCells (g : Grid) (light : Bool) (r : Ray) : List Pos :=
  ((rayMarks g light r).filter fun m => m.2).map fun m => m.1

theorem mem_litCells (g : Grid) (light : Bool) (r : Ray) (q : Pos) :
    q ∈ litCells g light r ↔ (q, true) ∈ rayMarks g light r := by
  simp [litCells]

theorem rayMarks_noninterf (g g' : Grid) (c : Pos)
    (hag : ∀ q, q ≠ c → (g'.at q).blocksVision = (g.at q).blocksVision)
    (light : Bool) (r : Ray) (h : (c, true) ∉ rayMarks g light r) :
    rayMarks g' light r = rayMarks g light r :=
  rayMarks_congr g g' light r fun q hq =>
    Decidable.by_contra fun hmem => hq (hag q fun e => hmem (e ▸ h))

end GV
