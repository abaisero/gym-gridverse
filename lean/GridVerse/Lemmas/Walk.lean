/-
  Walking: reachability of a goal, and following straight segments with the relative move actions
  under any chain that starts with `move_agent` and whose other members stay quiet on move actions.
-/
import GridVerse.Model.Win
import GridVerse.Lemmas.Positions
namespace GV

/-- the goal can be reached from `s`: some actions and some resolution of the draws lead to a goal
state, no earlier step being terminating -/
inductive Reaches (fs : List TransAtom) (stop : State → Action → State → Bool) (goal : State → Bool) :
    State → Prop
  | here (s : State) : goal s = true → Reaches fs stop goal s
  | step (s : State) (a : Action) (d : DrawSt) (s' : State) (d' : DrawSt) :
      runChain fs s a d = .ok (s', d') → (goal s' = true ∨ stop s a s' = false) →
      Reaches fs stop goal s' → Reaches fs stop goal s

theorem checkPlan_cons (fs : List TransAtom) (stop : State → Action → State → Bool) (goal : State → Bool)
    (s s' : State) (a : Action) (as : List Action) (d d' : DrawSt)
    (hrun : runChain fs s a d = .ok (s', d')) (hok : goal s' = true ∨ stop s a s' = false)
    (hrest : checkPlan fs stop goal s' as d' = true) : checkPlan fs stop goal s (a :: as) d = true := by
  simp only [checkPlan, hrun, hrest, Bool.and_true, Bool.or_eq_true, Bool.not_eq_true']
  right
  rcases hok with h | h
  · left; exact h
  · right; exact h

theorem nextPos_moveToward (p : Pos) (o dir : Orient) :
    nextPos p o (moveToward o dir) = p.add (Pos.ofOrient dir) := by
  cases o <;> cases dir <;> rfl

theorem moveToward_isMove (o dir : Orient) : (moveToward o dir).isMove = true := by
  cases o <;> cases dir <;> rfl

theorem turnAgent_of_isMove (s : State) {a : Action} (ha : a.isMove = true) : turnAgent s a = s := by
  cases a <;> first | rfl | cases ha

theorem moveAgent_toward (s : State) (dir : Orient)
    (hc : s.grid.contains (s.agent.pos.add (Pos.ofOrient dir)) = true)
    (hb : (s.grid.at (s.agent.pos.add (Pos.ofOrient dir))).blocksMovement = false) :
    moveAgent s (moveToward s.agent.o dir) = withPos s (s.agent.pos.add (Pos.ofOrient dir)) := by
  simp only [moveAgent, moveToward_isMove, nextPos_moveToward, hc, hb, if_true, Bool.false_eq_true, if_false]
  rfl

/-- the atoms of `rest` leave `s` as it is on a move action: none of them moves the agent, the agent
stands on no telepod, there is no obstacle to move -/
structure RestQuiet (rest : List TransAtom) (s : State) : Prop where
  noMove : TransAtom.moveAgent ∉ rest
  tele : TransAtom.teleport ∈ rest → s.grid.WF ∧ s.grid.contains s.agent.pos = true ∧
    (s.grid.at s.agent.pos).isKind .telepod = false
  obst : TransAtom.moveObstacles ∈ rest → s.grid.find (fun o => o.isKind .obstacle) = []

theorem rest_quiet_run (rest : List TransAtom) (s : State) (a : Action) (d : DrawSt) (ha : a.isMove = true)
    (q : RestQuiet rest s) : runChain rest s a d = .ok (s, d) := by
  induction rest with
  | nil => rfl
  | cons f fs ih =>
    have q' : RestQuiet fs s :=
      ⟨fun h => q.noMove (List.mem_cons_of_mem _ h), fun h => q.tele (List.mem_cons_of_mem _ h),
       fun h => q.obst (List.mem_cons_of_mem _ h)⟩
    have hf : f.run s a d = .ok (s, d) := by
      cases f with
      | moveAgent => exact absurd (List.mem_cons_self ..) q.noMove
      | turnAgent => simp only [TransAtom.run, turnAgent_of_isMove s ha]
      | pickndrop => cases a <;> first | rfl | cases ha
      | actuateDoor => cases a <;> first | rfl | cases ha
      | actuateBox => cases a <;> first | rfl | cases ha
      | moveObstacles =>
        have := q.obst (List.mem_cons_self ..)
        simp only [TransAtom.run, moveObstacles, this, List.foldl_nil]
      | teleport =>
        obtain ⟨wf, hc, ht⟩ := q.tele (List.mem_cons_self ..)
        simp only [TransAtom.run, teleport, Grid.pyGet_of_contains _ wf _ hc, ht, Bool.false_eq_true, if_false]
    simp only [runChain, hf, ih q']

theorem step_toward (rest : List TransAtom) (s : State) (dir : Orient) (d : DrawSt)
    (hc : s.grid.contains (s.agent.pos.add (Pos.ofOrient dir)) = true)
    (hb : (s.grid.at (s.agent.pos.add (Pos.ofOrient dir))).blocksMovement = false)
    (q : RestQuiet rest (withPos s (s.agent.pos.add (Pos.ofOrient dir)))) :
    runChain (.moveAgent :: rest) s (moveToward s.agent.o dir) d =
      .ok (withPos s (s.agent.pos.add (Pos.ofOrient dir)), d) := by
  simp only [runChain, TransAtom.run, moveAgent_toward s dir hc hb]
  exact rest_quiet_run rest _ _ d (moveToward_isMove _ _) q

/-- chains whose members other than the leading `move_agent` never act on a move action whatever
the grid: no second `move_agent`, no `teleport`, no `move_obstacles` -/
structure PlainRest (rest : List TransAtom) : Prop where
  noMove : TransAtom.moveAgent ∉ rest
  noTele : TransAtom.teleport ∉ rest
  noObst : TransAtom.moveObstacles ∉ rest

theorem PlainRest.quiet {rest : List TransAtom} (p : PlainRest rest) (s : State) : RestQuiet rest s :=
  ⟨p.noMove, fun h => absurd h p.noTele, fun h => absurd h p.noObst⟩

theorem plainTurn : PlainRest [.turnAgent] := ⟨by decide, by decide, by decide⟩
theorem plainKD : PlainRest [.turnAgent, .actuateDoor, .pickndrop] := ⟨by decide, by decide, by decide⟩

/-- the shipped chains of the tasks without telepods and obstacles -/
example : PlainRest [.turnAgent] := plainTurn
example : PlainRest [.turnAgent, .actuateDoor, .pickndrop] := plainKD

/-- `k` cells from `p` in direction `dir` -/
def shift (p : Pos) (dir : Orient) (k : Nat) : Pos :=
  ⟨p.y + (k : Int) * (Pos.ofOrient dir).y, p.x + (k : Int) * (Pos.ofOrient dir).x⟩

theorem shift_zero (p : Pos) (dir : Orient) : shift p dir 0 = p := by
  simp [shift]

theorem shift_succ (p : Pos) (dir : Orient) (k : Nat) :
    shift p dir (k + 1) = (shift p dir k).add (Pos.ofOrient dir) := by
  simp only [shift, Pos.add, Pos.mk.injEq]
  constructor <;> (push_cast; rw [Int.add_mul]; omega)

theorem shift_one_shift (p : Pos) (dir : Orient) (k : Nat) :
    shift (shift p dir 1) dir k = shift p dir (k + 1) := by
  simp only [shift, Pos.mk.injEq]
  constructor <;> (push_cast; rw [Int.add_mul]; omega)

/-- what a cell must satisfy for the agent to step onto it and carry on: inside, not blocking, the
rest of the chain quiet there, and not a terminating arrival (unless it is the goal).  `go` speaks of
every state on the same grid from which the step leads to `c`, so that `Pass` does not depend on where
the agent stands (`Pass.withPos`); its two premises are what a termination that looks at the move, such
as `bump_into_wall`, would need, `reach_exit` needs neither -/
structure Pass (rest : List TransAtom) (stop : State → Action → State → Bool) (goal : State → Bool)
    (s : State) (c : Pos) : Prop where
  inside : s.grid.contains c = true
  free : (s.grid.at c).blocksMovement = false
  quiet : RestQuiet rest (withPos s c)
  go : goal (withPos s c) = true ∨
    ∀ s0 a, s0.grid = s.grid → nextPos s0.agent.pos s0.agent.o a = c → stop s0 a (withPos s c) = false

theorem Pass.withPos {rest : List TransAtom} {stop : State → Action → State → Bool} {goal : State → Bool}
    {s : State} {c : Pos} (p : Pass rest stop goal s c) (c0 : Pos) : Pass rest stop goal (withPos s c0) c :=
  ⟨p.inside, p.free, p.quiet, p.go⟩

theorem walk_then (rest : List TransAtom) (stop : State → Action → State → Bool) (goal : State → Bool)
    (dir : Orient) (n : Nat) (s : State) (more : List Action) (d : DrawSt)
    (hpass : ∀ k, 1 ≤ k → k ≤ n → Pass rest stop goal s (shift s.agent.pos dir k))
    (hmore : checkPlan (.moveAgent :: rest) stop goal (withPos s (shift s.agent.pos dir n)) more d = true) :
    checkPlan (.moveAgent :: rest) stop goal s (walk s.agent.o dir n ++ more) d = true := by
  induction n generalizing s with
  | zero =>
    simp only [walk, List.replicate_zero, List.nil_append]
    rw [shift_zero] at hmore
    exact hmore
  | succ n ih =>
    have p1 := hpass 1 (Nat.le_refl _) (by omega)
    have e1 : shift s.agent.pos dir 1 = s.agent.pos.add (Pos.ofOrient dir) := by
      rw [shift_succ, shift_zero]
    rw [e1] at p1
    simp only [walk, List.replicate_succ, List.cons_append]
    apply checkPlan_cons _ _ _ s (withPos s (s.agent.pos.add (Pos.ofOrient dir))) _ _ d d
    · exact step_toward rest s dir d p1.inside p1.free p1.quiet
    · rcases p1.go with h | h
      · exact Or.inl h
      · exact Or.inr (h s _ rfl (nextPos_moveToward _ _ _))
    · refine ih (withPos s (s.agent.pos.add (Pos.ofOrient dir))) (fun k hk1 hk2 => ?_) ?_
      · rw [withPos_pos, ← e1, shift_one_shift]
        exact (hpass (k + 1) (by omega) (by omega)).withPos _
      · rw [withPos_pos, withPos_withPos, ← e1, shift_one_shift]
        exact hmore

/-! ### the termination `reach_exit`: a cell that does not block is passable -/

/-- a cell the agent can stand on -/
def Free (g : Grid) (q : Pos) : Prop := g.contains q = true ∧ (g.at q).blocksMovement = false

theorem stop_reachExit_false (s0 : State) (a : Action) (s' : State) (wf : s'.grid.WF)
    (hc : s'.grid.contains s'.agent.pos = true) (hk : (s'.grid.at s'.agent.pos).isKind .exit = false) :
    stopOf .reachExit s0 a s' = false := by
  simp only [stopOf, TermFn.eval, termOverlap, Grid.pyGet_of_contains _ wf _ hc, hk]

theorem goalExit_withPos {s : State} {c : Pos} (hin : s.grid.contains c = true)
    (hk : (s.grid.at c).isKind .exit = true) : goalExit (withPos s c) = true := by
  simp only [goalExit, withPos_grid, withPos_pos, hin, hk, Bool.and_self]

theorem Free.pass {rest : List TransAtom} {goal : State → Bool} {s : State} {c : Pos} (wf : s.grid.WF)
    (fr : Free s.grid c) (q : RestQuiet rest (withPos s c))
    (hg : (s.grid.at c).isKind .exit = true → goal (withPos s c) = true) :
    Pass rest (stopOf .reachExit) goal s c := by
  refine ⟨fr.1, fr.2, q, ?_⟩
  cases hk : (s.grid.at c).isKind .exit
  · exact Or.inr fun s0 a _ _ => stop_reachExit_false s0 a (withPos s c) wf fr.1 hk
  · exact Or.inl (hg hk)

theorem Free.passExit {rest : List TransAtom} {s : State} {c : Pos} (wf : s.grid.WF)
    (fr : Free s.grid c) (q : RestQuiet rest (withPos s c)) : Pass rest (stopOf .reachExit) goalExit s c :=
  fr.pass wf q (goalExit_withPos fr.1)

/-- `v` lies on the way from `a` (exclusive) to `b` (inclusive) -/
def Btw (a b v : Int) : Prop := (a < v ∧ v ≤ b) ∨ (b ≤ v ∧ v < a)

theorem Btw.ne {a b v : Int} (h : Btw a b v) : v ≠ a := by
  unfold Btw at h
  omega

theorem toward_1d (a t : Int) (k : Nat) (hk : k ≤ (t - a).natAbs) :
    (1 ≤ k → Btw a t (a + k * (if t < a then -1 else 1))) ∧
      (a + k * (if t < a then -1 else 1) = t ↔ k = (t - a).natAbs) := by
  unfold Btw
  split <;> omega

theorem shift_vert (p : Pos) (ty : Int) (k : Nat) (hk : k ≤ (ty - p.y).natAbs) :
    ∃ y, shift p (if ty < p.y then .F else .B) k = ⟨y, p.x⟩ ∧ (1 ≤ k → Btw p.y ty y) ∧
      (y = ty ↔ k = (ty - p.y).natAbs) :=
  ⟨_, by split <;> simp [shift, Pos.ofOrient], toward_1d p.y ty k hk⟩

theorem shift_horiz (p : Pos) (tx : Int) (k : Nat) (hk : k ≤ (tx - p.x).natAbs) :
    ∃ x, shift p (if tx < p.x then .L else .R) k = ⟨p.y, x⟩ ∧ (1 ≤ k → Btw p.x tx x) ∧
      (x = tx ↔ k = (tx - p.x).natAbs) :=
  ⟨_, by split <;> simp [shift, Pos.ofOrient], toward_1d p.x tx k hk⟩

theorem vwalk_then (rest : List TransAtom) (stop : State → Action → State → Bool) (goal : State → Bool)
    (s : State) (ty : Int) (more : List Action) (d : DrawSt)
    (hv : ∀ y, Btw s.agent.pos.y ty y → Pass rest stop goal s ⟨y, s.agent.pos.x⟩)
    (hmore : checkPlan (.moveAgent :: rest) stop goal (withPos s ⟨ty, s.agent.pos.x⟩) more d = true) :
    checkPlan (.moveAgent :: rest) stop goal s
      (walk s.agent.o (if ty < s.agent.pos.y then .F else .B) (ty - s.agent.pos.y).natAbs ++ more) d = true := by
  apply walk_then
  · intro k hk1 hk2
    obtain ⟨y, e, hb, _⟩ := shift_vert s.agent.pos ty k hk2
    rw [e]; exact hv y (hb hk1)
  · obtain ⟨y, e, _, he⟩ := shift_vert s.agent.pos ty _ (Nat.le_refl _)
    rw [e, he.mpr rfl]; exact hmore

theorem hwalk_then (rest : List TransAtom) (stop : State → Action → State → Bool) (goal : State → Bool)
    (s : State) (tx : Int) (more : List Action) (d : DrawSt)
    (hh : ∀ x, Btw s.agent.pos.x tx x → Pass rest stop goal s ⟨s.agent.pos.y, x⟩)
    (hmore : checkPlan (.moveAgent :: rest) stop goal (withPos s ⟨s.agent.pos.y, tx⟩) more d = true) :
    checkPlan (.moveAgent :: rest) stop goal s
      (walk s.agent.o (if tx < s.agent.pos.x then .L else .R) (tx - s.agent.pos.x).natAbs ++ more) d = true := by
  apply walk_then
  · intro k hk1 hk2
    obtain ⟨x, e, hb, _⟩ := shift_horiz s.agent.pos tx k hk2
    rw [e]; exact hh x (hb hk1)
  · obtain ⟨x, e, _, he⟩ := shift_horiz s.agent.pos tx _ (Nat.le_refl _)
    rw [e, he.mpr rfl]; exact hmore

theorem lplan_then (rest : List TransAtom) (stop : State → Action → State → Bool) (goal : State → Bool)
    (s : State) (q : Pos) (more : List Action) (d : DrawSt)
    (hv : ∀ y, Btw s.agent.pos.y q.y y → Pass rest stop goal s ⟨y, s.agent.pos.x⟩)
    (hh : ∀ x, Btw s.agent.pos.x q.x x → Pass rest stop goal s ⟨q.y, x⟩)
    (hmore : checkPlan (.moveAgent :: rest) stop goal (withPos s q) more d = true) :
    checkPlan (.moveAgent :: rest) stop goal s (lPlan s.agent.o s.agent.pos q ++ more) d = true := by
  unfold lPlan
  rw [List.append_assoc]
  exact vwalk_then rest stop goal s q.y _ d hv
    (hwalk_then rest stop goal (withPos s ⟨q.y, s.agent.pos.x⟩) q.x more d (fun x hx => (hh x hx).withPos _) hmore)

theorem lplan_rect (rest : List TransAtom) (stop : State → Action → State → Bool) (goal : State → Bool)
    (s : State) (q : Pos) (more : List Action) (d : DrawSt) (y0 y1 x0 x1 : Int)
    (hpass : ∀ c : Pos, y0 < c.y ∧ c.y < y1 ∧ x0 < c.x ∧ c.x < x1 → Pass rest stop goal s c)
    (hp : y0 < s.agent.pos.y ∧ s.agent.pos.y < y1 ∧ x0 < s.agent.pos.x ∧ s.agent.pos.x < x1)
    (hq : y0 < q.y ∧ q.y < y1 ∧ x0 < q.x ∧ q.x < x1)
    (hmore : checkPlan (.moveAgent :: rest) stop goal (withPos s q) more d = true) :
    checkPlan (.moveAgent :: rest) stop goal s (lPlan s.agent.o s.agent.pos q ++ more) d = true := by
  refine lplan_then rest stop goal s q more d (fun y hy => hpass _ ?_) (fun x hx => hpass _ ?_) hmore
  · unfold Btw at hy; simp only; omega
  · unfold Btw at hx; simp only; omega

theorem lplanH_then (rest : List TransAtom) (stop : State → Action → State → Bool) (goal : State → Bool)
    (s : State) (q : Pos) (more : List Action) (d : DrawSt)
    (hh : ∀ x, Btw s.agent.pos.x q.x x → Pass rest stop goal s ⟨s.agent.pos.y, x⟩)
    (hv : ∀ y, Btw s.agent.pos.y q.y y → Pass rest stop goal s ⟨y, q.x⟩)
    (hmore : checkPlan (.moveAgent :: rest) stop goal (withPos s q) more d = true) :
    checkPlan (.moveAgent :: rest) stop goal s (lPlanH s.agent.o s.agent.pos q ++ more) d = true := by
  unfold lPlanH
  rw [List.append_assoc]
  exact hwalk_then rest stop goal s q.x _ d hh
    (vwalk_then rest stop goal (withPos s ⟨s.agent.pos.y, q.x⟩) q.y more d (fun y hy => (hv y hy).withPos _) hmore)

end GV
