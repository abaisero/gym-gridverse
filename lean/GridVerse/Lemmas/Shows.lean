/-
  "The grid is this cell function on this rectangle": the form in which the reset theorems describe
  the grid they build, cell by cell, and in which the winnability proofs read it.
-/
import GridVerse.Lemmas.Draw
namespace GV

/-- `g` is a well-formed `h × w` grid that holds `f q` at each of its cells `q` -/
structure Grid.Shows (g : Grid) (h w : Nat) (f : Pos → Obj) : Prop where
  wf : g.WF
  gh : g.h = h
  gw : g.w = w
  cell : ∀ q, g.contains q = true → g.at q = f q

theorem eq_singleton_of_mem_iff {α : Type} {l : List α} {a : α} (hnd : l.Nodup) (h : ∀ b, b ∈ l ↔ b = a) :
    l = [a] := by
  -- a duplicate-free list all of whose members are `a` is `replicate n a` with `n ≤ 1`
  have e := List.eq_replicate_of_mem fun b hb => (h b).mp hb
  rw [e, List.nodup_replicate] at hnd
  have := List.length_pos_of_mem ((h a).mpr rfl)
  rw [e, show l.length = 1 by omega]
  rfl

namespace Grid.Shows
variable {g : Grid} {h w : Nat} {f : Pos → Obj}

theorem contains_iff (s : g.Shows h w f) (q : Pos) :
    g.contains q = true ↔ 0 ≤ q.y ∧ q.y < h ∧ 0 ≤ q.x ∧ q.x < w := by
  rw [Grid.contains_iff, s.gh, s.gw]

theorem congr (s : g.Shows h w f) {f' : Pos → Obj} (hf : ∀ q, g.contains q = true → f q = f' q) :
    g.Shows h w f' :=
  ⟨s.wf, s.gh, s.gw, fun q hq => (s.cell q hq).trans (hf q hq)⟩

theorem fill (h w : Nat) (o : Obj) : (Grid.fill h w o).Shows h w fun _ => o :=
  ⟨Grid.tab_WF _ _ _, rfl, rfl, fun q hq => by rw [Grid.at_fill, hq]; rfl⟩

/-- a grid of the same size that differs from `g` by holding `o` where `c` holds: the form in which
`drawAll_spec` and `scatter_spec` describe their result -/
theorem overlay (s : g.Shows h w f) {g' : Grid} (wf' : g'.WF) (gh' : g'.h = g.h) (gw' : g'.w = g.w)
    {c : Pos → Prop} [DecidablePred c] {o : Obj} (hat : ∀ q, g'.at q = if c q then o else g.at q) :
    g'.Shows h w fun q => if c q then o else f q := by
  refine ⟨wf', gh'.trans s.gh, gw'.trans s.gw, fun q hq => ?_⟩
  rw [hat q]
  split
  · rfl
  · exact s.cell q ((Grid.contains_congr gh' gw' q).symm.trans hq)

theorem setP (s : g.Shows h w f) {p : Pos} (hp : g.contains p = true) (o : Obj) :
    (g.setP p o).Shows h w fun q => if q = p then o else f q :=
  s.overlay (Grid.setP_WF g s.wf p o) rfl rfl (Grid.at_setP g s.wf p o hp)

theorem setE (s : g.Shows h w f) {p : Pos} (hp : g.contains p = true) (o : Obj) :
    ∃ g', g.setE p o = .ok g' ∧ g'.Shows h w fun q => if q = p then o else f q :=
  ⟨_, Grid.setE_ok g p o hp, s.setP hp o⟩

theorem drawAll (s : g.Shows h w f) (ps : List Pos) (o : Obj) (hps : ∀ p ∈ ps, g.contains p = true) :
    ∃ g', GV.drawAll g ps o = .ok g' ∧ g'.Shows h w fun q => if q ∈ ps then o else f q := by
  obtain ⟨g', e, wf', gh', gw', hat'⟩ := drawAll_spec g s.wf ps o hps
  exact ⟨g', e, s.overlay wf' gh' gw' hat'⟩

/-- the one cell whose object has property `P` is what the plans look up as `(g.find P).headD _` -/
theorem headD_find (s : g.Shows h w f) {P : Obj → Bool} {p : Pos} (hin : g.contains p = true)
    (hp : P (f p) = true) (huniq : ∀ q, g.contains q = true → P (f q) = true → q = p) (dflt : Pos) :
    (g.find P).headD dflt = p := by
  have e : g.find P = [p] := eq_singleton_of_mem_iff (Grid.find_nodup g P) fun q => by
    rw [Grid.mem_find]
    exact ⟨fun ⟨hqc, hqp⟩ => huniq q hqc (s.cell q hqc ▸ hqp), fun e => e ▸ ⟨hin, s.cell p hin ▸ hp⟩⟩
  rw [e]
  rfl

end Grid.Shows
end GV
