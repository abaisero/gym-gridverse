/-
  Refinement of the reference-level layer (Model/Heap.lean) to the pure layer (Model/Transition.lean):
  on a heap state whose nodes are *separated* (no object instance occurs at two places), each in-place
  transition function computes, on the value the heap state denotes, exactly what the pure function
  computes; separation is preserved, so this lifts to chains.  Apart from the door opening and the making of
  new leaf objects, all the functions do to the object graph is one or two top-level assignments (`Puts`:
  into a cell, into the hand); `SepC.put` and `SepC.put2` say when these keep the chains separated.
-/
import GridVerse.Lemmas.Heap
import GridVerse.Lemmas.Atoms
namespace GV

/-- top-level places an object reference can sit in: a grid cell, or the agent's hand (`none`) -/
def Heap.top (hp : Heap) (s : HState) : Option Pos → Ref
  | some p => hp.cellRef s p
  | none => hp.heldRef s

def HState.validLoc (s : HState) : Option Pos → Prop
  | some p => s.contains p = true
  | none => True

/-- a family of chains is separated: a reference occurs at one place and one depth only -/
def SepC (V : Option Pos → Prop) (C : Option Pos → Nat → Option Ref) : Prop :=
  ∀ l1 l2 k1 k2 r, V l1 → V l2 → C l1 k1 = some r → C l2 k2 = some r → l1 = l2 ∧ k1 = k2

def Heap.chains (hp : Heap) (s : HState) : Option Pos → Nat → Option Ref :=
  fun l k => hp.chainAt k (hp.top s l)

theorem chainAt_congr_on {h h' : Heap} (r : Ref) (k : Nat)
    (he : ∀ j x, j < k → h.chainAt j r = some x → (h'.objOf x).content = (h.objOf x).content) :
    h'.chainAt k r = h.chainAt k r := by
  induction k generalizing r with
  | zero => rfl
  | succ k ih =>
    have e0 := he 0 r (by omega) rfl
    simp only [Heap.chainAt, e0]
    cases hc : (h.objOf r).content with
    | none => rfl
    | some c =>
      simp only
      apply ih
      intro j x hj hx
      exact he (j + 1) x (by omega) ((chainAt_succ hc j).trans hx)

theorem chainAt_congr {h h' : Heap} (e : h'.objOf = h.objOf) (k : Nat) (r : Ref) :
    h'.chainAt k r = h.chainAt k r :=
  chainAt_congr_on r k fun _ _ _ _ => by rw [e]

theorem chainAt_ext {h h' : Heap} (e : Ext h h') (r : Ref) (k : Nat)
    (hb : ∀ j x, h.chainAt j r = some x → x < h.next) : h'.chainAt k r = h.chainAt k r :=
  chainAt_congr_on r k fun j x _ hx => by rw [e.agree.obj x (hb j x hx)]

theorem SepC.disj {V : Option Pos → Prop} {C : Option Pos → Nat → Option Ref} (S : SepC V C) {l1 l2 : Option Pos}
    (v1 : V l1) (v2 : V l2) (hne : l1 ≠ l2) (k k' : Nat) (r : Ref) (h1 : C l1 k = some r) : C l2 k' ≠ some r :=
  fun h2 => hne (S l1 l2 k k' r v1 v2 h1 h2).1

theorem SepC.self {V : Option Pos → Prop} {C : Option Pos → Nat → Option Ref} (S : SepC V C) {l : Option Pos}
    (v : V l) (k1 k2 : Nat) (r : Ref) (h1 : C l k1 = some r) (h2 : C l k2 = some r) : k1 = k2 :=
  (S l l k1 k2 r v v h1 h2).2

theorem SepC.congr {V : Option Pos → Prop} {C C' : Option Pos → Nat → Option Ref} (S : SepC V C)
    (e : ∀ l k, V l → C' l k = C l k) : SepC V C' := by
  intro l1 l2 k1 k2 r v1 v2 h1 h2
  rw [e l1 k1 v1] at h1
  rw [e l2 k2 v2] at h2
  exact S l1 l2 k1 k2 r v1 v2 h1 h2

structure RowsOK (hp : Heap) (s : HState) : Prop where
  rowsLen : (hp.rowsOf s.outer).length = s.h
  rowsNodup : (hp.rowsOf s.outer).Nodup
  rowLen : ∀ row ∈ hp.rowsOf s.outer, (hp.cellsOf row).length = s.w

theorem RowsOK.shaped {hp : Heap} {s : HState} (ro : RowsOK hp s) : Shaped hp s := ⟨ro.rowsLen, ro.rowLen⟩

theorem HState.pos_eq {s : HState} {p q : Pos} (hp : s.contains p = true) (hq : s.contains q = true)
    (hy : p.y.toNat = q.y.toNat) (hx : p.x.toNat = q.x.toNat) : p = q :=
  Grid.eq_of_toNat (g := ⟨s.h, s.w, []⟩) hp hq hy hx

/-- the row lists are distinct objects (`rowsNodup`), so `grid[p] = r` shows in row `p.y` only -/
theorem cellRef_assign {hp : Heap} {s : HState} (ro : RowsOK hp s) {p q : Pos} (hp' : s.contains p = true)
    (hq : s.contains q = true) (r : Ref) :
    (hp.assignCell s p r).cellRef s q = if q = p then r else hp.cellRef s q := by
  obtain ⟨hpy, hpx, hprow, _⟩ := ro.shaped.locate hp'
  obtain ⟨hqy, _, hqrow, _⟩ := ro.shaped.locate hq
  simp only [Heap.cellRef, Heap.assignCell, Heap.setCells, hprow, hqrow]
  by_cases hrow : (hp.rowsOf s.outer)[q.y.toNat] = (hp.rowsOf s.outer)[p.y.toNat]
  · have hyy : q.y.toNat = p.y.toNat := (List.getElem_inj ro.rowsNodup).mp hrow
    rw [if_pos hrow]
    by_cases hx : q.x.toNat = p.x.toNat
    · rw [if_pos (HState.pos_eq hq hp' hyy hx), hx]
      simp [List.getD, hpx]
    · rw [if_neg fun e : q = p => hx (e ▸ rfl)]
      simp only [List.getD, List.getElem?_set, hrow]
      rw [if_neg (Ne.symm hx)]
  · rw [if_neg hrow, if_neg fun e : q = p => hrow (by subst e; rfl)]

theorem rowsOK_assign {hp : Heap} {s : HState} (ro : RowsOK hp s) (p : Pos) (r : Ref) :
    RowsOK (hp.assignCell s p r) s :=
  ⟨ro.rowsLen, ro.rowsNodup, (ro.shaped.assignCell p r).1.rows⟩

@[simp] theorem assignCell_objOf (hp : Heap) (s : HState) (p : Pos) (r : Ref) : (hp.assignCell s p r).objOf = hp.objOf := rfl
@[simp] theorem assignCell_next (hp : Heap) (s : HState) (p : Pos) (r : Ref) : (hp.assignCell s p r).next = hp.next := rfl
@[simp] theorem assignCell_tfOf (hp : Heap) (s : HState) (p : Pos) (r : Ref) : (hp.assignCell s p r).tfOf = hp.tfOf := rfl
@[simp] theorem assignCell_agentOf (hp : Heap) (s : HState) (p : Pos) (r : Ref) : (hp.assignCell s p r).agentOf = hp.agentOf := rfl
@[simp] theorem assignCell_rowsOf (hp : Heap) (s : HState) (p : Pos) (r : Ref) : (hp.assignCell s p r).rowsOf = hp.rowsOf := rfl

/-- what a heap state must satisfy to denote a pure state, cell by cell -/
structure Core (hp : Heap) (s : HState) (st : State) : Prop where
  hh : s.h = st.grid.h
  ww : s.w = st.grid.w
  wf : st.grid.WF
  rows : RowsOK hp s
  cell : ∀ p, s.contains p = true → Denotes hp (hp.cellRef s p) (st.grid.at p)
  tf : hp.tfOf (hp.agentOf s.agent).1 = ⟨st.agent.pos, st.agent.o⟩
  held : Denotes hp (hp.heldRef s) st.agent.held
  -- only `teleport` needs it: it reads the agent's cell with Python indexing, which may raise
  agentIn : st.grid.contains st.agent.pos = true

/-- separated representation -/
structure Rep (hp : Heap) (s : HState) (st : State) : Prop where
  core : Core hp s st
  sep : SepC s.validLoc (hp.chains s)

theorem Core.contains {hp : Heap} {s : HState} {st : State} (c : Core hp s st) (p : Pos) :
    s.contains p = st.grid.contains p := by
  simp only [HState.contains, Grid.contains, c.hh, c.ww]

theorem Core.pos {hp : Heap} {s : HState} {st : State} (c : Core hp s st) : hp.pos s = st.agent.pos := by
  simp only [Heap.pos, c.tf]
theorem Core.orient {hp : Heap} {s : HState} {st : State} (c : Core hp s st) : hp.orient s = st.agent.o := by
  simp only [Heap.orient, c.tf]
theorem Core.front {hp : Heap} {s : HState} {st : State} (c : Core hp s st) : hp.front s = st.agent.front := by
  simp only [Heap.front, c.pos, c.orient, Agent.front, Agent.transform]

theorem Core.objAt {hp : Heap} {s : HState} {st : State} (c : Core hp s st) (p : Pos) (hc : s.contains p = true) :
    (hp.objOf (hp.cellRef s p)).obj = st.grid.at p :=
  (c.cell p hc).obj

theorem Core.assign {hp : Heap} {s : HState} {st : State} (c : Core hp s st) {p : Pos} (hc : s.contains p = true)
    {r : Ref} {o : Obj} (d : Denotes hp r o) :
    Core (hp.assignCell s p r) s { st with grid := st.grid.setP p o } := by
  have hcg : st.grid.contains p = true := by rw [← c.contains]; exact hc
  refine ⟨c.hh, c.ww, Grid.setP_WF _ c.wf _ _, rowsOK_assign c.rows p r, ?_, ?_, ?_, ?_⟩
  · intro q hq
    rw [cellRef_assign c.rows hc hq r]
    simp only
    rw [Grid.at_setP _ c.wf p o hcg q]
    by_cases e : q = p
    · rw [if_pos e, if_pos e]; exact d.same rfl rfl
    · rw [if_neg e, if_neg e]; exact (c.cell q hq).same rfl rfl
  · simp only [assignCell_tfOf, assignCell_agentOf]; exact c.tf
  · simp only [Heap.heldRef, assignCell_agentOf]; exact c.held.same rfl rfl
  · simp only [Grid.contains_setP]; exact c.agentIn

/-- `hp'` is `hp` after `grid[p] = r` or `agent.grid_object = r` -/
structure Puts (s : HState) (hp hp' : Heap) (l₀ : Option Pos) (r : Ref) : Prop where
  obj : hp'.objOf = hp.objOf
  top : ∀ l, s.validLoc l → hp'.top s l = if l = l₀ then r else hp.top s l

theorem puts_assign {hp : Heap} {s : HState} (ro : RowsOK hp s) {p : Pos} (hp0 : s.contains p = true) (r : Ref) :
    Puts s hp (hp.assignCell s p r) (some p) r := by
  refine ⟨rfl, fun l v => ?_⟩
  cases l with
  | none => exact (if_neg (by intro h; cases h)).symm
  | some q => simp only [Heap.top, cellRef_assign ro hp0 v r, Option.some.injEq]

theorem puts_setHeld (hp : Heap) (s : HState) (r : Ref) :
    Puts s hp (hp.setHeld s r) none r := by
  refine ⟨rfl, fun l _ => ?_⟩
  cases l with
  | none => simp only [Heap.top, Heap.heldRef, setHeld_agentOf, if_true]
  | some q => exact (if_neg (by intro h; cases h)).symm

theorem Puts.chainAt {s : HState} {hp hp' : Heap} {l₀ : Option Pos} {r : Ref} (P : Puts s hp hp' l₀ r) (k : Nat) (x : Ref) :
    hp'.chainAt k x = hp.chainAt k x := chainAt_congr P.obj k x

theorem Puts.chains {s : HState} {hp hp' : Heap} {l₀ : Option Pos} {r : Ref} (P : Puts s hp hp' l₀ r)
    {l : Option Pos} (v : s.validLoc l) :
    hp'.chains s l = if l = l₀ then (hp.chainAt · r) else hp.chains s l := by
  funext k
  simp only [Heap.chains, P.top l v, P.chainAt]
  split <;> rfl

/-- separation after one assignment: the chain of `r` is injective in itself and disjoint from the
chains of the places that remain.  A function that assigns twice applies this twice, the family in
between being separated on the places not yet overwritten: hence `V'`. -/
theorem SepC.put {s : HState} {hp hp' : Heap} {l₀ : Option Pos} {r : Ref} {V V' : Option Pos → Prop}
    (S : SepC V (hp.chains s)) (P : Puts s hp hp' l₀ r) (v₀ : s.validLoc l₀)
    (sub : ∀ l, V' l → s.validLoc l ∧ (l ≠ l₀ → V l))
    (inj : ∀ k1 k2 x, hp.chainAt k1 r = some x → hp.chainAt k2 r = some x → k1 = k2)
    (apart : ∀ l, V' l → l ≠ l₀ → ∀ k k' x, hp.chains s l k = some x → hp.chainAt k' r ≠ some x) :
    SepC V' (hp'.chains s) := by
  have new : hp'.chains s l₀ = (hp.chainAt · r) := by rw [P.chains v₀, if_pos rfl]
  have old : ∀ l, V' l → l ≠ l₀ → hp'.chains s l = hp.chains s l := fun l v hne => by
    rw [P.chains (sub l v).1, if_neg hne]
  intro l1 l2 k1 k2 x v1 v2 h1 h2
  by_cases e1 : l1 = l₀ <;> by_cases e2 : l2 = l₀
  · subst e1; subst e2; rw [new] at h1 h2; exact ⟨rfl, inj k1 k2 x h1 h2⟩
  · subst e1; rw [new] at h1; rw [old l2 v2 e2] at h2; exact absurd h1 (apart l2 v2 e2 k2 k1 x h2)
  · subst e2; rw [new] at h2; rw [old l1 v1 e1] at h1; exact absurd h2 (apart l1 v1 e1 k1 k2 x h1)
  · rw [old l1 v1 e1] at h1; rw [old l2 v2 e2] at h2
    exact S l1 l2 k1 k2 x ((sub l1 v1).2 e1) ((sub l2 v2).2 e2) h1 h2

/-- a reference whose chain may be put into one of the two places `l₁`, `l₂` about to be overwritten: the
chain is injective and meets no chain of any other place -/
structure Spare (hp : Heap) (s : HState) (l₁ l₂ : Option Pos) (r : Ref) : Prop where
  inj : ∀ k1 k2 x, hp.chainAt k1 r = some x → hp.chainAt k2 r = some x → k1 = k2
  apart : ∀ l, s.validLoc l → l ≠ l₁ → l ≠ l₂ → ∀ k k' x, hp.chains s l k = some x → hp.chainAt k' r ≠ some x

theorem SepC.spare {hp : Heap} {s : HState} {l₁ l₂ : Option Pos} (S : SepC s.validLoc (hp.chains s))
    (l₀ : Option Pos) (v₀ : s.validLoc l₀) (h : l₀ = l₁ ∨ l₀ = l₂) : Spare hp s l₁ l₂ (hp.top s l₀) := by
  refine ⟨fun k1 k2 x h1 h2 => S.self v₀ k1 k2 x h1 h2, fun l v n1 n2 k k' x h1 h2 => ?_⟩
  refine S.disj v v₀ ?_ k k' x h1 h2
  rcases h with rfl | rfl
  · exact n1
  · exact n2

theorem Spare.leaf {hp : Heap} {s : HState} {l₁ l₂ : Option Pos} {r : Ref} (hl : (hp.objOf r).content = none)
    (hfresh : ∀ l k, s.validLoc l → hp.chains s l k ≠ some r) : Spare hp s l₁ l₂ r :=
  ⟨fun k1 k2 x h1 h2 => by rw [(chainAt_leaf hl h1).1, (chainAt_leaf hl h2).1],
   fun l v _ _ k k' x h1 h2 => hfresh l k v ((chainAt_leaf hl h2).2 ▸ h1)⟩

/-- separation after two assignments in a row (`l₁` first) of spare references, which have nothing in
common unless the second assignment overwrites the first -/
theorem SepC.put2 {s : HState} {hp hp1 hp2 : Heap} {l₁ l₂ : Option Pos} {r₁ r₂ : Ref}
    (S : SepC s.validLoc (hp.chains s)) (P1 : Puts s hp hp1 l₁ r₁) (P2 : Puts s hp1 hp2 l₂ r₂)
    (v₁ : s.validLoc l₁) (v₂ : s.validLoc l₂) (sp1 : Spare hp s l₁ l₂ r₁) (sp2 : Spare hp s l₁ l₂ r₂)
    (cross : l₁ ≠ l₂ → ∀ k k' x, hp.chainAt k r₁ = some x → hp.chainAt k' r₂ ≠ some x) :
    SepC s.validLoc (hp2.chains s) := by
  -- in between, the family is separated on the places other than `l₂`
  have S1 : SepC (fun l => s.validLoc l ∧ l ≠ l₂) (hp1.chains s) :=
    S.put P1 v₁ (fun l v => ⟨v.1, fun _ => v.1⟩) sp1.inj fun l v hne => sp1.apart l v.1 hne v.2
  refine S1.put P2 v₂ (fun l v => ⟨v, fun hne => ⟨v, hne⟩⟩) ?_ ?_
  · intro k1 k2 x h1 h2
    rw [P1.chainAt] at h1 h2
    exact sp2.inj k1 k2 x h1 h2
  · intro l v hne k k' x h1 h2
    rw [P1.chainAt] at h2
    rw [P1.chains v] at h1
    by_cases e : l = l₁
    · rw [if_pos e] at h1; exact cross (e ▸ hne) k k' x h1 h2
    · rw [if_neg e] at h1; exact sp2.apart l v e hne k k' x h1 h2

theorem Core.chain_lt {hp : Heap} {s : HState} {st : State} (c : Core hp s st) (l : Option Pos) (v : s.validLoc l)
    (k : Nat) (x : Ref) (hx : hp.chains s l k = some x) : x < hp.next := by
  cases l with
  | none => exact c.held.chain_lt k x hx
  | some p => exact (c.cell p v).chain_lt k x hx

theorem chains_newObj {hp : Heap} {s : HState} {st : State} (c : Core hp s st) (o : HObj) (l : Option Pos)
    (v : s.validLoc l) (k : Nat) : (hp.newObj o).2.chains s l k = hp.chains s l k := by
  cases l <;> exact chainAt_ext (ext_newObj hp o) _ k fun j x hx => c.chain_lt _ v j x hx

theorem Rep.newObj {hp : Heap} {s : HState} {st : State} (R : Rep hp s st) (o : HObj) : Rep (hp.newObj o).2 s st :=
  have c := R.core
  ⟨{ c with rows := { c.rows with }
            cell := fun p hp0 => Denotes.stable (ext_newObj hp o) _ _ (c.cell p hp0)
            held := Denotes.stable (ext_newObj hp o) _ _ c.held },
   R.sep.congr fun l k v => chains_newObj c o l v k⟩

theorem Rep.ite {hp hp' : Heap} {s : HState} {st st' : State} (R : Rep hp s st) {b : Prop} [Decidable b]
    (h : b → Rep hp' s st') : Rep (if b then hp' else hp) s (if b then st' else st) := by
  split
  · exact h ‹_›
  · exact R

theorem Rep.setPose {hp : Heap} {s : HState} {st : State} (R : Rep hp s st) (t : Transform)
    (hin : st.grid.contains t.pos = true) :
    Rep (hp.setTf (hp.agentOf s.agent).1 t) s { st with agent := { st.agent with pos := t.pos, o := t.o } } := by
  have c := R.core
  refine ⟨{ c with rows := { c.rows with }
                   cell := fun p hp0 => (c.cell p hp0).same rfl rfl
                   tf := ?_
                   held := c.held.same rfl rfl
                   agentIn := hin }, ?_⟩
  · simp only [Heap.setTf, if_true]
  · apply R.sep.congr
    intro l k _
    cases l <;> exact chainAt_congr (h := hp) (h' := hp.setTf (hp.agentOf s.agent).1 t) rfl k _

theorem Rep.setPos {hp : Heap} {s : HState} {st : State} (R : Rep hp s st) (p : Pos) (hin : st.grid.contains p = true) :
    Rep (hp.setPos s p) s (withPos st p) := by
  have := R.setPose ⟨p, st.agent.o⟩ hin
  simp only [Heap.setPos, R.core.tf]
  exact this

theorem moveAgent_rep {hp : Heap} {s : HState} {st : State} (R : Rep hp s st) (a : Action) :
    Rep (hMoveAgent hp s a) s (moveAgent st a) := by
  have c := R.core
  unfold hMoveAgent moveAgent
  simp only [c.pos, c.orient, c.contains]
  refine R.ite fun _ => R.ite fun hc => ?_
  have hc' : s.contains (nextPos st.agent.pos st.agent.o a) = true := (c.contains _).trans hc
  simp only [c.objAt _ hc']
  split
  · exact R
  · exact R.setPos _ hc

theorem turnAgent_rep {hp : Heap} {s : HState} {st : State} (R : Rep hp s st) (a : Action) :
    Rep (hTurnAgent hp s a) s (turnAgent st a) := by
  have c := R.core
  unfold hTurnAgent turnAgent
  cases a.turnOrient with
  | none => exact R
  | some t =>
    simp only
    have := R.setPose ⟨st.agent.pos, st.agent.o.mul t⟩ c.agentIn
    simp only [c.tf]
    exact this

/-- `door.state = OPEN` on the faced door: the only in-place change of an object node -/
theorem Rep.openDoor {hp : Heap} {s : HState} {st : State} (R : Rep hp s st) {front : Pos}
    (hc : s.contains front = true) {sd : DoorStatus} {col : Color} (hat : st.grid.at front = .door sd col) :
    Rep (hp.setObj (hp.cellRef s front) { hp.objOf (hp.cellRef s front) with obj := .door .open col }) s
      { st with grid := st.grid.setP front (.door .open col) } := by
  have c := R.core
  have hcg : st.grid.contains front = true := by rw [← c.contains]; exact hc
  obtain ⟨dlt, _, dcontent⟩ := (Denotes.leaf_iff (o := .door sd col) fun _ e => by cases e).mp (hat ▸ c.cell front hc)
  -- the door's reference occurs nowhere else, so every other place reads the nodes it read
  have fresh : ∀ l, s.validLoc l → l ≠ some front → ∀ k x, hp.chains s l k = some x → x ≠ hp.cellRef s front :=
    fun l v hne k x hx e => R.sep.disj (l2 := some front) v hc hne k 0 x hx (e ▸ rfl)
  refine ⟨⟨c.hh, c.ww, Grid.setP_WF _ c.wf _ _, ⟨c.rows.rowsLen, c.rows.rowsNodup, c.rows.rowLen⟩,
    ?_, c.tf, ?_, by simp only [Grid.contains_setP]; exact c.agentIn⟩, ?_⟩
  · intro q hq
    show Denotes _ (hp.cellRef s q) _
    rw [Grid.at_setP _ c.wf front _ hcg q]
    by_cases e : q = front
    · subst e
      rw [if_pos rfl]
      exact (Denotes.leaf_iff fun _ e => by cases e).mpr ⟨dlt, by rw [setObj_objOf], by rw [setObj_objOf]; exact dcontent⟩
    · rw [if_neg e]
      exact (c.cell q hq).congr (Nat.le_refl _) fun k x hx =>
        if_neg (fresh (some q) hq (fun h => e (Option.some.inj h)) k x hx)
  · exact c.held.congr (Nat.le_refl _) fun k x hx => if_neg (fresh none trivial (fun h => by cases h) k x hx)
  · apply R.sep.congr
    intro l k _
    cases l <;> exact chainAt_congr_on _ k fun _ x _ _ => setObj_content hp _ _ x

theorem actuateDoor_rep {hp : Heap} {s : HState} {st : State} (R : Rep hp s st) (a : Action) :
    Rep (hActuateDoor hp s a) s (actuateDoor st a) := by
  have c := R.core
  unfold hActuateDoor actuateDoor
  simp only [c.front, c.contains]
  refine R.ite fun _ => R.ite fun hc => ?_
  have hc' : s.contains st.agent.front = true := (c.contains _).trans hc
  simp only [c.objAt _ hc']
  cases hat : st.grid.at st.agent.front with
  | door sd col =>
    simp only
    cases sd with
    | «open» => exact R
    | closed => exact R.openDoor hc' hat
    | locked =>
      simp only [c.held.obj]
      cases hh : st.agent.held with
      | key kc => exact R.ite fun _ => R.openDoor hc' hat
      | _ => exact R
  | _ => exact R

/-- `grid[front] = box.content`: the faced cell now starts one level down its old chain -/
theorem actuateBox_rep {hp : Heap} {s : HState} {st : State} (R : Rep hp s st) (a : Action) :
    Rep (hActuateBox hp s a) s (actuateBox st a) := by
  have c := R.core
  unfold hActuateBox actuateBox
  simp only [c.front, c.contains]
  refine R.ite fun _ => R.ite fun hc => ?_
  have hc' : s.contains st.agent.front = true := (c.contains _).trans hc
  simp only [c.objAt _ hc']
  have dfront := c.cell _ hc'
  cases hat : st.grid.at st.agent.front with
  | box content =>
    rw [hat] at dfront
    obtain ⟨_, _, cr, hcr, dcr⟩ := Denotes.box_iff.mp dfront
    simp only [hcr]
    refine ⟨c.assign hc' dcr, ?_⟩
    have htail : ∀ k, hp.chainAt k cr = hp.chains s (some st.agent.front) (k + 1) :=
      fun k => (chainAt_succ hcr k).symm
    refine R.sep.put (puts_assign c.rows hc' cr) hc' (fun l v => ⟨v, fun _ => v⟩) ?_ ?_
    · intro k1 k2 x h1 h2
      rw [htail] at h1 h2
      have := R.sep.self (l := some st.agent.front) hc' _ _ x h1 h2
      omega
    · intro l v hne k k' x h1 h2
      rw [htail] at h2
      exact R.sep.disj (l2 := some st.agent.front) v hc' hne k _ x h1 h2
  | _ => simp only; exact R

theorem Rep.swap {hp : Heap} {s : HState} {st : State} (R : Rep hp s st) {p q : Pos}
    (hp0 : s.contains p = true) (hq0 : s.contains q = true) :
    Rep (hp.swapCells s p q) s { st with grid := st.grid.swap p q } := by
  have c := R.core
  unfold Heap.swapCells
  simp only
  have c1 := c.assign hp0 (c.cell q hq0)
  refine ⟨c1.assign hq0 ((c.cell p hp0).same rfl rfl), ?_⟩
  -- `p` gets the chain of `q`, and `q` that of `p`
  exact R.sep.put2 (puts_assign c.rows hp0 _) (puts_assign c1.rows hq0 _) hp0 hq0
    (R.sep.spare (some q) hq0 (.inr rfl)) (R.sep.spare (some p) hp0 (.inl rfl))
    fun hne => R.sep.disj (l1 := some q) (l2 := some p) hq0 hp0 (Ne.symm hne)

theorem Core.findCells {hp : Heap} {s : HState} {st : State} (c : Core hp s st) (f : Obj → Bool) :
    hp.findCells s f = st.grid.find f := by
  unfold Heap.findCells Grid.find Grid.positions
  rw [c.hh, c.ww]
  apply List.filter_congr
  intro q hq
  have hq' : q ∈ st.grid.positions := hq
  rw [Grid.mem_positions] at hq'
  rw [c.objAt q (by rw [c.contains]; exact hq')]

theorem obstacleStep_rep {hp : Heap} {s : HState} {st : State} (R : Rep hp s st) (p : Pos)
    (hp0 : s.contains p = true) (d : DrawSt) :
    Rep (hObstacleStep s hp p d).1 s { st with grid := (obstacleStep st.grid p d).1 } ∧
      (hObstacleStep s hp p d).2 = (obstacleStep st.grid p d).2 := by
  have c := R.core
  unfold hObstacleStep obstacleStep
  have hn : ((manhattanBoundary p 1).filter fun q => s.contains q && (hp.objOf (hp.cellRef s q)).obj.isKind .floor) =
      (manhattanBoundary p 1).filter fun q => st.grid.contains q && (st.grid.at q).isKind .floor := by
    apply List.filter_congr
    intro q _
    by_cases hq : s.contains q = true
    · rw [c.objAt q hq, ← c.contains]
    · have hq' : s.contains q = false := by simpa using hq
      rw [← c.contains, hq']; simp
  have hin := fun i => obstacleTarget_contains (hp := hp) hp0 i
  simp only [hn] at hin ⊢
  generalize ((manhattanBoundary p 1).filter fun q => st.grid.contains q && (st.grid.at q).isKind .floor) = nexts at hin
  cases hd : drawChoice nexts.length d with
  | mk oi d' =>
    cases oi with
    | none => exact ⟨R, rfl⟩
    | some i => exact ⟨R.swap hp0 (hin i), rfl⟩

theorem obstaclesFold_rep {s : HState} {st : State} (ps : List Pos) (hps : ∀ q ∈ ps, s.contains q = true)
    (acc : Heap × DrawSt) {g : Grid} (R : Rep acc.1 s { st with grid := g }) :
    Rep (ps.foldl (fun (acc : Heap × DrawSt) p => hObstacleStep s acc.1 p acc.2) acc).1 s
        { st with grid := (obstaclesFold ps g acc.2).1 } ∧
      (ps.foldl (fun (acc : Heap × DrawSt) p => hObstacleStep s acc.1 p acc.2) acc).2 = (obstaclesFold ps g acc.2).2 := by
  induction ps generalizing acc g with
  | nil => exact ⟨R, rfl⟩
  | cons p ps ih =>
    obtain ⟨R1, hd⟩ := obstacleStep_rep R p (hps p List.mem_cons_self) acc.2
    rw [List.foldl_cons, obstaclesFold_cons, ← hd]
    exact ih (fun q hq => hps q (List.mem_cons_of_mem _ hq)) _ R1

theorem moveObstacles_rep {hp : Heap} {s : HState} {st : State} (R : Rep hp s st) (d : DrawSt) :
    Rep (hMoveObstacles hp s d).1 s (moveObstacles st d).1 ∧ (hMoveObstacles hp s d).2 = (moveObstacles st d).2 := by
  rw [moveObstacles_eq]
  unfold hMoveObstacles
  rw [R.core.findCells]
  exact obstaclesFold_rep _ (fun q hq => (R.core.contains q).trans ((Grid.mem_find _ _ _).mp hq).1) (hp, d) R

theorem teleport_rep {hp : Heap} {s : HState} {st : State} (R : Rep hp s st) (d : DrawSt) :
    ∃ st' d', teleport st d = .ok (st', d') ∧ Rep (hTeleport hp s d).1 s st' ∧ (hTeleport hp s d).2 = d' := by
  have c := R.core
  have hin : s.contains st.agent.pos = true := (c.contains _).trans c.agentIn
  unfold hTeleport teleport
  simp only [Grid.pyGet_of_contains _ c.wf _ c.agentIn, c.pos, c.objAt _ hin]
  by_cases ht : (st.grid.at st.agent.pos).isKind .telepod = true
  · simp only [ht, if_true]
    have hps : ((hp.findCells s fun o => o.isKind .telepod && o.color == (st.grid.at st.agent.pos).color).filter
        fun q => q != st.agent.pos) = teleportTargets st (st.grid.at st.agent.pos).color := by
      rw [c.findCells]
      unfold teleportTargets Grid.find
      rw [List.filter_filter]
      apply List.filter_congr
      intro q _
      simp only [Bool.and_assoc]
    simp only [hps]
    have hin2 : ∀ q ∈ teleportTargets st (st.grid.at st.agent.pos).color, st.grid.contains q = true :=
      fun q hq => (mem_teleportTargets.mp hq).1
    generalize teleportTargets st (st.grid.at st.agent.pos).color = ps at hin2
    by_cases he : ps.isEmpty = true
    · simp only [he, if_true]; exact ⟨_, _, rfl, R, rfl⟩
    · simp only [he, Bool.false_eq_true, if_false]
      cases hd : drawChoice ps.length d with
      | mk oi d' =>
        cases oi with
        | none => exact ⟨_, _, rfl, R, rfl⟩
        | some i =>
          exact ⟨_, _, rfl, R.setPos _ (getD_of_forall (P := fun q => st.grid.contains q = true) ps i _ c.agentIn hin2), rfl⟩
  · simp only [ht, Bool.false_eq_true, if_false]; exact ⟨_, _, rfl, R, rfl⟩

theorem Core.setHeld {hp : Heap} {s : HState} {st : State} (c : Core hp s st) {r : Ref} {o : Obj} (d : Denotes hp r o) :
    Core (hp.setHeld s r) s { st with agent := { st.agent with held := o } } := by
  refine { c with rows := { c.rows with }, cell := fun p hp0 => (c.cell p hp0).same rfl rfl, tf := ?_, held := ?_ }
  · rw [setHeld_agentOf]; exact c.tf
  · simp only [Heap.heldRef, setHeld_agentOf]
    exact d.same rfl rfl

/-- `grid[front] = rc; agent.grid_object = rh`, for two spare references with nothing in common -/
theorem Rep.placeBoth {hp : Heap} {s : HState} {st : State} (R : Rep hp s st) {front : Pos}
    (hc : s.contains front = true) {rc rh : Ref} {oc oh : Obj} (dc : Denotes hp rc oc) (dh : Denotes hp rh oh)
    (sC : Spare hp s (some front) none rc) (sH : Spare hp s (some front) none rh)
    (cross : ∀ k k' x, hp.chainAt k rc = some x → hp.chainAt k' rh ≠ some x) :
    Rep ((hp.assignCell s front rc).setHeld s rh) s
      { grid := st.grid.setP front oc, agent := { st.agent with held := oh } } := by
  have c := R.core
  have c1 := c.assign hc dc
  refine ⟨c1.setHeld (dh.same rfl rfl), ?_⟩
  exact R.sep.put2 (puts_assign c.rows hc rc) (puts_setHeld _ s rh) hc trivial sC sH fun _ => cross

theorem newObj_assign_comm (hp : Heap) (s : HState) (p : Pos) (r : Ref) (o : HObj) :
    (hp.assignCell s p r).newObj o = (hp.next, (hp.newObj o).2.assignCell s p r) := rfl

theorem Rep.newLeaf {hp : Heap} {s : HState} {st : State} (R : Rep hp s st) (o : Obj) (hleaf : ∀ c, o ≠ .box c) :
    Rep (hp.newObj ⟨o, none⟩).2 s st ∧ Denotes (hp.newObj ⟨o, none⟩).2 hp.next o ∧
      ((hp.newObj ⟨o, none⟩).2.objOf hp.next).content = none ∧
      ∀ l k, s.validLoc l → (hp.newObj ⟨o, none⟩).2.chains s l k ≠ some hp.next := by
  refine ⟨R.newObj _, .newLeaf hp hleaf, by rw [newObj_objOf], fun l k v h => ?_⟩
  rw [chains_newObj R.core _ l v k] at h
  exact Nat.lt_irrefl _ (R.core.chain_lt l v k _ h)

theorem pickndrop_rep {hp : Heap} {s : HState} {st : State} (R : Rep hp s st) (a : Action) :
    Rep (hPickndrop hp s a) s (pickndrop st a) := by
  have c := R.core
  unfold hPickndrop pickndrop
  simp only [c.front, c.contains]
  refine R.ite fun _ => R.ite fun hc => ?_
  have hc' : s.contains st.agent.front = true := (c.contains _).trans hc
  simp only [c.objAt _ hc', c.held.obj]
  refine R.ite fun _ => ?_
  by_cases hnone : st.agent.held.isKind .noneObj = true
  · -- empty hand: a new Floor() goes on the cell
    simp only [hnone, if_true]
    obtain ⟨R1, dF, lF, fF⟩ := R.newLeaf .floor (by intro c h; cases h)
    by_cases hhold : (st.grid.at st.agent.front).holdable = true
    · -- pick: the object in front goes to the hand
      simp only [hhold, if_true]
      exact R1.placeBoth hc' dF (R1.core.cell _ hc') (.leaf lF fF) (R1.sep.spare (some _) hc' (.inl rfl))
        fun k k' x h1 h2 => fF (some st.agent.front) k' hc' ((chainAt_leaf lF h1).2 ▸ h2)
    · -- nothing to pick: a new NoneGridObject() in the hand
      simp only [hhold, Bool.false_eq_true, if_false, newObj_assign_comm]
      obtain ⟨R2, dN, lN, fN⟩ := R1.newLeaf .noneObj (by intro c h; cases h)
      have lF2 : (((hp.newObj ⟨.floor, none⟩).2.newObj ⟨.noneObj, none⟩).2.objOf hp.next).content = none := by
        rw [(ext_newObj _ _).agree.obj hp.next (Nat.lt_succ_self _)]; exact lF
      refine R2.placeBoth hc' (Denotes.stable (ext_newObj _ _) _ _ dF) dN (.leaf lF2 fun l k v h => ?_) (.leaf lN fN)
        fun k k' x h1 h2 => ?_
      · rw [chains_newObj R1.core _ l v k] at h
        exact fF l k v h
      · have e1 := (chainAt_leaf lF2 h1).2
        have e2 := (chainAt_leaf lN h2).2
        exact Nat.ne_of_lt (Nat.lt_succ_self hp.next) (e1.symm.trans e2)
  · -- the held object goes on the cell
    simp only [hnone, Bool.false_eq_true, if_false]
    by_cases hhold : (st.grid.at st.agent.front).holdable = true
    · -- swap hand and cell
      simp only [hhold, if_true]
      exact R.placeBoth hc' c.held (c.cell _ hc') (R.sep.spare none trivial (.inr rfl)) (R.sep.spare (some _) hc' (.inl rfl))
        fun k k' x h1 h2 => R.sep.disj (l1 := none) (l2 := some st.agent.front) trivial hc' (by intro h; cases h) k k' x h1 h2
    · -- drop: a new NoneGridObject() in the hand
      simp only [hhold, Bool.false_eq_true, if_false, newObj_assign_comm]
      obtain ⟨R2, dN, lN, fN⟩ := R.newLeaf .noneObj (by intro c h; cases h)
      exact R2.placeBoth hc' (Denotes.stable (ext_newObj _ _) _ _ c.held) dN (R2.sep.spare none trivial (.inr rfl)) (.leaf lN fN)
        fun k k' x h1 h2 => fN none k trivial ((chainAt_leaf lN h2).2 ▸ h1)

theorem atom_rep {hp : Heap} {s : HState} {st : State} (R : Rep hp s st) (f : TransAtom) (a : Action) (d : DrawSt) :
    ∃ st' d', f.run st a d = .ok (st', d') ∧ Rep (hRunAtom f hp s a d).1 s st' ∧ (hRunAtom f hp s a d).2 = d' := by
  cases f with
  | moveAgent => exact ⟨_, _, rfl, moveAgent_rep R a, rfl⟩
  | turnAgent => exact ⟨_, _, rfl, turnAgent_rep R a, rfl⟩
  | pickndrop => exact ⟨_, _, rfl, pickndrop_rep R a, rfl⟩
  | moveObstacles => exact ⟨_, _, rfl, moveObstacles_rep R d⟩
  | actuateDoor => exact ⟨_, _, rfl, actuateDoor_rep R a, rfl⟩
  | actuateBox => exact ⟨_, _, rfl, actuateBox_rep R a, rfl⟩
  | teleport => exact teleport_rep R d

theorem chain_rep (fs : List TransAtom) {hp : Heap} {s : HState} {st : State} (R : Rep hp s st) (a : Action) (d : DrawSt) :
    ∃ st' d', runChain fs st a d = .ok (st', d') ∧ Rep (hRunChain fs hp s a d).1 s st' ∧ (hRunChain fs hp s a d).2 = d' := by
  induction fs generalizing hp st d with
  | nil => exact ⟨st, d, rfl, R, rfl⟩
  | cons f fs ih =>
    obtain ⟨st1, d1, e1, R1, hd1⟩ := atom_rep R f a d
    obtain ⟨st2, d2, e2, R2, hd2⟩ := ih R1 d1
    refine ⟨st2, d2, ?_, ?_, ?_⟩
    · simp only [runChain, e1, e2]
    · simp only [hRunChain, hd1]; exact R2
    · simp only [hRunChain, hd1]; exact hd2

theorem Core.abs {hp : Heap} {s : HState} {st : State} (c : Core hp s st) : hp.abs s = st := by
  have sh := c.rows.shaped
  have hgrid : hp.absGrid s = st.grid :=
    Grid.ext_cells _ _ sh.absGrid_WF c.wf c.hh c.ww fun i j hi hj => by
      have hin : s.contains ⟨(i : Int), (j : Int)⟩ = true := HState.contains_natCast hi hj
      rw [← Grid.at_natCast _ i j hi hj, ← Grid.at_natCast _ i j (c.hh ▸ hi) (c.ww ▸ hj), sh.absGrid_at hin]
      exact (c.cell _ hin).abs boxFuel
  have hagent : hp.absAgent s = st.agent := by
    unfold Heap.absAgent
    have := c.held.abs boxFuel
    simp only [Heap.heldRef] at this
    simp only [c.tf, this]
  unfold Heap.abs
  rw [hgrid, hagent]

end GV
