/-
  What the draw primitives return for every answer stream, what drawing onto a grid does, and
  membership in the position iterators the reset functions loop over.
-/
import GridVerse.Model.Reset
import GridVerse.Lemmas.Positions
namespace GV

theorem drawChoice_some_lt (n : Nat) (d d' : DrawSt) (i : Nat) (h : drawChoice n d = (some i, d')) :
    i < n := by
  unfold drawChoice at h
  simp only at h
  split at h
  · cases h
  · rename_i hn
    simp only [Prod.mk.injEq, Option.some.injEq] at h
    rw [← h.1]
    exact Nat.mod_lt _ (Nat.pos_of_ne_zero hn)

theorem drawChoice_none_iff (n : Nat) (d : DrawSt) : (drawChoice n d).1 = none ↔ n = 0 := by
  unfold drawChoice
  simp only
  split <;> simp_all

theorem drawChoice_cons (n i : Nat) (rest : List Nat) (log : List Req) (h : i < n) :
    drawChoice n ⟨i :: rest, log⟩ = (some i, ⟨rest, log ++ [.choice n]⟩) := by
  unfold drawChoice
  have hn : n ≠ 0 := by omega
  simp [hn, DrawSt.note, DrawSt.pop, Nat.mod_eq_of_lt h]

/-- for every `i < n` there is an answer stream making `rng.choice(n)` return `i` -/
theorem drawChoice_attain (n i : Nat) (h : i < n) (log : List Req) (rest : List Nat) :
    (drawChoice n ⟨i :: rest, log⟩).1 = some i := by
  rw [drawChoice_cons n i rest log h]

theorem drawChoice_zero (d : DrawSt) : drawChoice 0 d = (none, d.note (.choice 0)) := by
  simp [drawChoice]

theorem drawChoice_pos (n : Nat) (hn : 0 < n) (d : DrawSt) :
    ∃ i d', drawChoice n d = (some i, d') ∧ i < n := by
  have hne : n ≠ 0 := by omega
  refine ⟨(d.note (.choice n)).pop.1 % n, (d.note (.choice n)).pop.2, ?_, Nat.mod_lt _ hn⟩
  simp [drawChoice, hne]

theorem getD_of_lt {α} {l : List α} {i : Nat} (dflt : α) (h : i < l.length) : l.getD i dflt = l[i] :=
  (List.getElem_eq_getD dflt).symm

theorem getD_of_forall {α : Type} {P : α → Prop} (l : List α) (i : Nat) (d : α) (hd : P d) (hl : ∀ x ∈ l, P x) :
    P (l.getD i d) := by
  rw [List.getD_eq_getElem?_getD]
  cases h : l[i]? with
  | none => exact hd
  | some x => exact hl x (List.mem_of_getElem? h)

theorem getD_map {α β} (f : α → β) (l : List α) (i : Nat) (dflt : α) :
    (l.map f).getD i (f dflt) = f (l.getD i dflt) := by
  rw [List.getD_eq_getElem?_getD, List.getD_eq_getElem?_getD, List.getElem?_map, Option.getD_map]

/-- `rng.choice(l)` on a non-empty list returns a member -/
theorem drawChoice_mem {α} (l : List α) (dflt : α) (hl : 0 < l.length) (d : DrawSt) :
    ∃ i d', drawChoice l.length d = (some i, d') ∧ l.getD i dflt ∈ l := by
  obtain ⟨i, d', hc, hi⟩ := drawChoice_pos _ hl d
  exact ⟨i, d', hc, getD_of_lt dflt hi ▸ List.getElem_mem hi⟩

theorem drawIntegers_some (lo hi : Int) (h : lo < hi) (d : DrawSt) :
    ∃ v d', drawIntegers lo hi d = (some v, d') ∧ lo ≤ v ∧ v < hi := by
  have hne : ¬ hi ≤ lo := by omega
  refine ⟨lo + (((d.note (.integers lo hi)).pop.1 % (hi - lo).toNat : Nat) : Int),
    (d.note (.integers lo hi)).pop.2, by simp [drawIntegers, hne], by omega, ?_⟩
  have hpos : 0 < (hi - lo).toNat := by omega
  have := Nat.mod_lt (d.note (.integers lo hi)).pop.1 hpos
  omega

theorem drawIntegers_none (lo hi : Int) (h : hi ≤ lo) (d : DrawSt) : (drawIntegers lo hi d).1 = none := by
  simp [drawIntegers, h]

theorem removeAt_eq_eraseIdx {α} (l : List α) (i : Nat) : removeAt l i = l.eraseIdx i := by
  induction l generalizing i with
  | nil => rfl
  | cons x xs ih =>
    cases i with
    | zero => rfl
    | succ j => rw [removeAt, List.eraseIdx_cons_succ, ih]

theorem pickSeq_spec {α} [Inhabited α] (k : Nat) (pool : List α) (d : DrawSt) (hk : k ≤ pool.length)
    (hnd : pool.Nodup) :
    (pickSeq k pool d).1.length = k ∧ (pickSeq k pool d).1.Nodup ∧ ∀ x ∈ (pickSeq k pool d).1, x ∈ pool := by
  induction k generalizing pool d with
  | zero => simp [pickSeq]
  | succ n ih =>
    have hlen : pool.length ≠ 0 := by omega
    have hi : d.pop.1 % pool.length < pool.length := Nat.mod_lt _ (by omega)
    have hget : pool[d.pop.1 % pool.length]! = pool[d.pop.1 % pool.length] := by simp [hi]
    simp only [pickSeq, hlen, if_false, removeAt_eq_eraseIdx, hget]
    obtain ⟨h1, h2, h3⟩ := ih (pool.eraseIdx (d.pop.1 % pool.length)) d.pop.2
      (by rw [List.length_eraseIdx, if_pos hi]; omega) (hnd.eraseIdx _)
    refine ⟨by simp [h1], List.nodup_cons.mpr ⟨fun hm => ?_, h2⟩, fun x hx => ?_⟩
    · -- the picked element is gone from the rest of the pool, which has no duplicates
      obtain ⟨j, hj, hne, e⟩ := List.mem_eraseIdx_iff_getElem.mp (h3 _ hm)
      exact hne ((List.getElem_inj hnd).mp e)
    · rcases List.mem_cons.mp hx with rfl | hx
      · exact List.getElem_mem hi
      · exact (List.eraseIdx_sublist _ _).subset (h3 x hx)

theorem drawChoiceNR_some (n k : Nat) (hk : k ≤ n) (d : DrawSt) :
    ∃ l d', drawChoiceNR n k d = (some l, d') ∧ l.length = k ∧ l.Nodup ∧ ∀ i ∈ l, i < n := by
  have hne : ¬ n < k := by omega
  have hs := pickSeq_spec k (List.range n) (d.note (.choiceNR n k)) (by simpa using hk) List.nodup_range
  refine ⟨_, _, by simp only [drawChoiceNR, hne, if_false]; rfl, hs.1, hs.2.1, ?_⟩
  intro i hi
  exact List.mem_range.mp (hs.2.2 i hi)

theorem drawChoiceNR_none_eq (n k : Nat) (hk : n < k) (d : DrawSt) :
    drawChoiceNR n k d = (none, d.note (.choiceNR n k)) := by
  simp [drawChoiceNR, hk]

/-- how a sample of indices (`drawChoiceNR_some`) becomes a sample of members -/
theorem map_getD_nodup {α} {l : List α} (hl : l.Nodup) (dflt : α) {idx : List Nat} (hnd : idx.Nodup)
    (hlt : ∀ i ∈ idx, i < l.length) :
    (idx.map fun i => l.getD i dflt).Nodup ∧ ∀ p ∈ (idx.map fun i => l.getD i dflt), p ∈ l := by
  constructor
  · rw [List.Nodup, List.pairwise_map]
    apply List.Pairwise.imp_of_mem _ hnd
    intro a b ha hb hab h
    rw [getD_of_lt dflt (hlt a ha), getD_of_lt dflt (hlt b hb)] at h
    exact hab ((List.getElem_inj hl).mp h)
  · intro p hp
    obtain ⟨i, hi, rfl⟩ := List.mem_map.mp hp
    exact getD_of_lt dflt (hlt i hi) ▸ List.getElem_mem (hlt i hi)

theorem two_picks {α} (l : List α) (hl : l.length = 2) : ∃ a b, l = [a, b] :=
  ⟨_, _, List.eq_getElem_of_length_eq_two l hl⟩

theorem two_le_length_of_mem {α} {l : List α} {a b : α} (ha : a ∈ l) (hb : b ∈ l) (hab : a ≠ b) :
    2 ≤ l.length :=
  List.Nodup.length_le_of_subset (l₁ := [a, b]) (by simp [hab]) (by simp [ha, hb])

/-- `rng.choice(l, size=k, replace=False)` on a duplicate-free `l` -/
theorem sample_spec {α} (l : List α) (dflt : α) (hnd : l.Nodup) (k : Nat) (hk : k ≤ l.length) (d : DrawSt) :
    ∃ idx d' picked, picked = idx.map (fun i => l.getD i dflt) ∧ drawChoiceNR l.length k d = (some idx, d') ∧
      picked.length = k ∧ picked.Nodup ∧ ∀ p ∈ picked, p ∈ l := by
  obtain ⟨idx, d1, hc, hl, hnd', hlt⟩ := drawChoiceNR_some l.length k hk d
  obtain ⟨h1, h2⟩ := map_getD_nodup hnd dflt hnd' hlt
  exact ⟨idx, d1, _, rfl, hc, by rw [List.length_map, hl], h1, h2⟩

theorem pick_two {α} (l : List α) (dflt : α) (hnd : l.Nodup) (hlen : 2 ≤ l.length) (d : DrawSt) :
    ∃ i0 i1 d', drawChoiceNR l.length 2 d = (some [i0, i1], d') ∧
      l.getD i0 dflt ∈ l ∧ l.getD i1 dflt ∈ l ∧ l.getD i0 dflt ≠ l.getD i1 dflt := by
  obtain ⟨idx, d1, _, rfl, hc, hl, hpn, hpm⟩ := sample_spec l dflt hnd 2 hlen d
  obtain ⟨i0, i1, rfl⟩ := two_picks idx (by rw [← hl, List.length_map])
  exact ⟨i0, i1, d1, hc, hpm _ (by simp), hpm _ (by simp), by simpa using hpn⟩

theorem drawShuffle_spec (n : Nat) (d : DrawSt) :
    (drawShuffle n d).1.length = n ∧ (drawShuffle n d).1.Nodup ∧ ∀ i ∈ (drawShuffle n d).1, i < n := by
  have hs := pickSeq_spec n (List.range n) (d.note (.shuffle n)) (by simp) List.nodup_range
  refine ⟨hs.1, hs.2.1, ?_⟩
  intro i hi
  exact List.mem_range.mp (hs.2.2 i hi)

theorem Grid.setE_ok (g : Grid) (p : Pos) (o : Obj) (h : g.contains p = true) :
    g.setE p o = .ok (g.setP p o) := by simp [Grid.setE, h]

theorem drawAll_spec (g : Grid) (hg : g.WF) (ps : List Pos) (o : Obj)
    (hps : ∀ p ∈ ps, g.contains p = true) :
    ∃ g', drawAll g ps o = .ok g' ∧ g'.WF ∧ g'.h = g.h ∧ g'.w = g.w ∧
      ∀ q, g'.at q = if q ∈ ps then o else g.at q := by
  induction ps generalizing g with
  | nil => exact ⟨g, rfl, hg, rfl, rfl, fun q => by simp⟩
  | cons p ps ih =>
    have hp := hps p (by simp)
    obtain ⟨g', h1, h2, h3, h4, h5⟩ := ih (g.setP p o) (Grid.setP_WF g hg p o)
      (fun q hq => by simpa using hps q (by simp [hq]))
    refine ⟨g', ?_, h2, by simpa using h3, by simpa using h4, ?_⟩
    · simp only [drawAll, List.foldlM_cons, Grid.setE_ok g p o hp]
      exact h1
    · intro q
      rw [h5 q, Grid.at_setP g hg p o hp]
      by_cases hq : q ∈ ps
      · simp [hq]
      · by_cases hqp : q = p
        · simp [hqp]
        · simp [hq, hqp]

/-- sample `k` cells of a pool and draw `o` on them: the obstacles of `dynamic_obstacles`, the two
telepods of `teleport` -/
theorem scatter_spec (g : Grid) (wf : g.WF) (pool : List Pos) (hpool : pool.Nodup)
    (hin : ∀ p ∈ pool, g.contains p = true) (k : Nat) (hk : k ≤ pool.length) (o : Obj) (d : DrawSt) :
    ∃ idx d' g' cells, cells = idx.map (fun i => pool.getD i ⟨0, 0⟩) ∧
      drawChoiceNR pool.length k d = (some idx, d') ∧ drawAll g cells o = .ok g' ∧
      cells.length = k ∧ cells.Nodup ∧ (∀ p ∈ cells, p ∈ pool) ∧
      g'.WF ∧ g'.h = g.h ∧ g'.w = g.w ∧ ∀ q, g'.at q = if q ∈ cells then o else g.at q := by
  obtain ⟨idx, d1, cells, rfl, hc, hl, hpn, hpm⟩ := sample_spec pool ⟨0, 0⟩ hpool k hk d
  obtain ⟨g', hg', wf', gh', gw', hat'⟩ := drawAll_spec g wf _ o (fun p hp => hin p (hpm p hp))
  exact ⟨idx, d1, g', _, rfl, hc, hg', hl, hpn, hpm, wf', gh', gw', hat'⟩

theorem placeAll_spec : ∀ (l : List (Pos × Obj)) (g : Grid), g.WF →
    (∀ p ∈ l.map Prod.fst, g.contains p = true) → (l.map Prod.fst).Nodup →
    ∃ g', placeAll g l = .ok g' ∧ g'.WF ∧ g'.h = g.h ∧ g'.w = g.w ∧
      (∀ p o, (p, o) ∈ l → g'.at p = o) ∧ (∀ q, q ∉ l.map Prod.fst → g'.at q = g.at q) := by
  intro l
  induction l with
  | nil => intro g hg _ _; exact ⟨g, rfl, hg, rfl, rfl, by simp, by simp⟩
  | cons po rest ih =>
    intro g hg hin hnd
    obtain ⟨p, o⟩ := po
    rw [List.map_cons, List.nodup_cons] at hnd
    have hp : g.contains p = true := hin p List.mem_cons_self
    obtain ⟨g', e', wf', gh', gw', hin', hout'⟩ := ih (g.setP p o) (Grid.setP_WF g hg p o)
      (fun q hq => hin q (List.mem_cons_of_mem _ hq)) hnd.2
    refine ⟨g', by rw [placeAll, Grid.setE_ok g p o hp]; exact e', wf', gh', gw', ?_, ?_⟩
    · intro q oq hq
      rcases List.mem_cons.mp hq with h | h
      · cases h
        rw [hout' p hnd.1, Grid.at_setP g hg p o hp, if_pos rfl]
      · exact hin' q oq h
    · intro q hq
      rw [List.map_cons, List.mem_cons, not_or] at hq
      rw [hout' q hq.2, Grid.at_setP g hg p o hp, if_neg hq.1]

theorem Grid.contains_shape {g : Grid} {sh : Shape} (gh : g.h = sh.h.toNat) (gw : g.w = sh.w.toNat) {p : Pos}
    (h1 : 0 ≤ p.y) (h2 : p.y < sh.h) (h3 : 0 ≤ p.x) (h4 : p.x < sh.w) : g.contains p = true := by
  rw [Grid.contains_iff, gh, gw]; omega

theorem Grid.contains_inner {g : Grid} {sh : Shape} (gh : g.h = sh.h.toNat) (gw : g.w = sh.w.toNat) {y x : Int}
    (h1 : 1 ≤ y) (h2 : y ≤ sh.h - 2) (h3 : 1 ≤ x) (h4 : x ≤ sh.w - 2) : g.contains ⟨y, x⟩ = true :=
  Grid.contains_shape gh gw (by simp only; omega) (by simp only; omega) (by simp only; omega) (by simp only; omega)

theorem mem_floorPositions (g : Grid) (p : Pos) :
    p ∈ floorPositions g ↔ g.contains p = true ∧ g.at p = .floor := by
  rw [floorPositions, Grid.mem_find, isKind_floor]

theorem Grid.at_fill (h w : Nat) (o : Obj) (q : Pos) :
    (Grid.fill h w o).at q = if (Grid.fill h w o).contains q then o else .hidden := by
  rw [Grid.fill, Grid.at_tab]
  simp only [Grid.contains_iff, Grid.tab_h, Grid.tab_w]

theorem mem_intRange (lo hi v : Int) : v ∈ intRange lo hi ↔ lo ≤ v ∧ v ≤ hi := by
  simp only [intRange, List.mem_map, List.mem_range]
  constructor
  · rintro ⟨k, hk, rfl⟩; omega
  · rintro ⟨h1, h2⟩; exact ⟨(v - lo).toNat, by omega, by omega⟩

theorem mem_pyRange (a b v : Int) : v ∈ pyRange a b ↔ a ≤ v ∧ v < b := by
  rw [pyRange, mem_intRange]; omega

theorem mem_pyRange2 (a b x : Int) : x ∈ pyRange2 a b ↔ ∃ k : Nat, k < ((b - a + 1) / 2).toNat ∧ x = a + 2 * (k : Int) := by
  simp only [pyRange2, List.mem_map, List.mem_range, eq_comm]

theorem pyRange2_nodup (a b : Int) : (pyRange2 a b).Nodup := by
  unfold pyRange2 List.Nodup
  rw [List.pairwise_map]
  apply List.Pairwise.imp _ List.nodup_range
  intro i j hij h
  apply hij
  omega

theorem mem_cartesian (ys xs : List Int) (p : Pos) : p ∈ cartesian ys xs ↔ p.y ∈ ys ∧ p.x ∈ xs := by
  simp only [cartesian, List.mem_flatMap, List.mem_map]
  constructor
  · rintro ⟨y, hy, x, hx, rfl⟩; exact ⟨hy, hx⟩
  · rintro ⟨hy, hx⟩; exact ⟨p.y, hy, p.x, hx, rfl⟩

/-- the border and the inside of an area are products of coordinate lists, as `cartesian` builds them -/
theorem mem_borderPositions (a : Area) (ha : a.WF) (p : Pos) :
    p ∈ a.borderPositions ↔
      a.contains p = true ∧ (p.y = a.ymin ∨ p.y = a.ymax ∨ p.x = a.xmin ∨ p.x = a.xmax) := by
  obtain ⟨h1, h2⟩ := ha
  show p ∈ cartesian _ _ ++ cartesian _ _ ↔ _
  simp only [List.mem_append, mem_cartesian, mem_intRange, List.mem_cons, List.not_mem_nil, or_false,
    Area.contains_iff]
  omega

theorem mem_insidePositions (a : Area) (p : Pos) :
    p ∈ a.insidePositions ↔ a.ymin < p.y ∧ p.y < a.ymax ∧ a.xmin < p.x ∧ p.x < a.xmax := by
  show p ∈ cartesian _ _ ↔ _
  rw [mem_cartesian, mem_intRange, mem_intRange]
  omega

theorem guard_valueError {α} {c : Prop} [Decidable c] {x : Except PyErr α}
    (h : ¬ c → x = .error .valueError) :
    (if c then .error .valueError else x) = .error .valueError := by
  split
  · rfl
  · exact h ‹_›

end GV
