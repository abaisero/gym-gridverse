/-
  Plan segments for the key-door chain: turning, picking up, opening.
-/
import GridVerse.Lemmas.Walk
import GridVerse.Props.C18
namespace GV

/-- the shipped key-door dynamics; the walk lemmas see it as `.moveAgent :: rest`, which it is by unfolding -/
def kdChain : List TransAtom := [.moveAgent, .turnAgent, .actuateDoor, .pickndrop]

theorem kd_turnL (s : State) (d : DrawSt) :
    runChain kdChain s .turnL d = .ok (withO s (s.agent.o.mul .L), d) := rfl

theorem kd_turnR (s : State) (d : DrawSt) :
    runChain kdChain s .turnR d = .ok (withO s (s.agent.o.mul .R), d) := rfl

theorem turns_then (stop : State → Action → State → Bool) (goal : State → Bool) (s : State) (t : Orient)
    (more : List Action) (d : DrawSt) (hns : ∀ s0 a o', stop s0 a (withO s o') = false)
    (hmore : checkPlan kdChain stop goal (withO s t) more d = true) :
    checkPlan kdChain stop goal s (turnsTo s.agent.o t ++ more) d = true := by
  -- one turn by `r` from heading `o`
  have one : ∀ (o : Orient) (a : Action) (r : Orient) (as : List Action),
      runChain kdChain (withO s o) a d = .ok (withO s (o.mul r), d) →
      checkPlan kdChain stop goal (withO s (o.mul r)) as d = true →
      checkPlan kdChain stop goal (withO s o) (a :: as) d = true :=
    fun o a r as hrun h => checkPlan_cons kdChain stop goal _ _ a as d d hrun (Or.inr (hns _ _ _)) h
  -- the target heading is the present one turned by `r`, and `turnsTo` is a case split on `r`
  rw [← Orient.mul_neg_mul s.agent.o t] at hmore
  unfold turnsTo
  generalize s.agent.o.neg.mul t = r at hmore ⊢
  cases r
  · rw [C18_mul_one] at hmore; exact hmore
  · rw [← Orient.mul_L_L] at hmore
    exact one s.agent.o .turnL .L _ (kd_turnL _ d) (one _ .turnL .L _ (kd_turnL _ d) hmore)
  · exact one s.agent.o .turnL .L _ (kd_turnL _ d) hmore
  · exact one s.agent.o .turnR .R _ (kd_turnR _ d) hmore

theorem pick_then (stop : State → Action → State → Bool) (goal : State → Bool) (s : State) (f : Pos) (c : Color)
    (more : List Action) (d : DrawSt) (hf : s.agent.pos.add (Pos.ofOrient s.agent.o) = f)
    (hin : s.grid.contains f = true) (hkey : s.grid.at f = .key c) (hheld : s.agent.held = .noneObj)
    (hns : stop s .pickNDrop ⟨s.grid.setP f .floor, { s.agent with held := .key c }⟩ = false)
    (hmore : checkPlan kdChain stop goal ⟨s.grid.setP f .floor, { s.agent with held := .key c }⟩ more d = true) :
    checkPlan kdChain stop goal s (.pickNDrop :: more) d = true := by
  apply checkPlan_cons kdChain stop goal s _ _ _ d d _ (Or.inr hns) hmore
  have : runChain kdChain s .pickNDrop d = .ok (pickndrop s .pickNDrop, d) := rfl
  rw [this]
  simp only [pickndrop, front_eq, hf, hin, hkey, hheld, if_true, Obj.isKind, Obj.kind, Obj.holdable,
    Bool.or_true, beq_self_eq_true]

theorem actuate_then (stop : State → Action → State → Bool) (goal : State → Bool) (s : State) (f : Pos) (c : Color)
    (more : List Action) (d : DrawSt) (hf : s.agent.pos.add (Pos.ofOrient s.agent.o) = f)
    (hin : s.grid.contains f = true) (hdoor : s.grid.at f = .door .locked c) (hheld : s.agent.held = .key c)
    (hns : stop s .actuate { s with grid := s.grid.setP f (.door .open c) } = false)
    (hmore : checkPlan kdChain stop goal { s with grid := s.grid.setP f (.door .open c) } more d = true) :
    checkPlan kdChain stop goal s (.actuate :: more) d = true := by
  apply checkPlan_cons kdChain stop goal s _ _ _ d d _ (Or.inr hns) hmore
  have : runChain kdChain s .actuate d = .ok (pickndrop (actuateDoor s .actuate) .actuate, d) := rfl
  rw [this]
  have h2 : ∀ s', pickndrop s' .actuate = s' := fun _ => rfl
  rw [h2]
  simp only [actuateDoor, front_eq, hf, hin, hdoor, hheld, if_true]

end GV
