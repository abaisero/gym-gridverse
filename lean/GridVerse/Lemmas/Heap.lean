/-
  Frame reasoning on the reference-level model (Model/Heap.lean): which nodes an evolution of the heap can
  touch.  `Closed n` / `Clean`: box contents at or above `n` do not point below `n` / unallocated memory holds nothing;
  `Shaped`: the row lists have the state's shape; `Alloc`: what the loader adds.  `StepFrom n`: nothing below `n` changes and every assignment lands at or above `n`; `Ext`, its
  allocation-only case (`pickle.loads`, list building); `OwnedFrom n`: a state all of whose nodes live at or
  above `n`; `Frame`, the two together, which every in-place transition function keeps (one lemma per
  primitive write, then one per function); for the observation, which assigns only into the containers it has
  just built, `buildRows_spec` and `hideCells_step`.  Last, the object nodes that denote values (`Denotes`), on
  which the refinement (Lemmas/Refine.lean) and the copy (Lemmas/RefineLoad.lean) rest.
-/
import GridVerse.Model.Heap
import GridVerse.Lemmas.Draw
namespace GV

structure AgreeBelow (n : Nat) (h h' : Heap) : Prop where
  rows : ∀ r, r < n → h'.rowsOf r = h.rowsOf r
  cells : ∀ r, r < n → h'.cellsOf r = h.cellsOf r
  obj : ∀ r, r < n → h'.objOf r = h.objOf r
  tf : ∀ r, r < n → h'.tfOf r = h.tfOf r
  agent : ∀ r, r < n → h'.agentOf r = h.agentOf r

theorem AgreeBelow.refl (n : Nat) (h : Heap) : AgreeBelow n h h :=
  ⟨fun _ _ => rfl, fun _ _ => rfl, fun _ _ => rfl, fun _ _ => rfl, fun _ _ => rfl⟩

theorem AgreeBelow.trans {n : Nat} {h1 h2 h3 : Heap} (a : AgreeBelow n h1 h2) (b : AgreeBelow n h2 h3) :
    AgreeBelow n h1 h3 :=
  ⟨fun r hr => (b.rows r hr).trans (a.rows r hr), fun r hr => (b.cells r hr).trans (a.cells r hr),
   fun r hr => (b.obj r hr).trans (a.obj r hr), fun r hr => (b.tf r hr).trans (a.tf r hr),
   fun r hr => (b.agent r hr).trans (a.agent r hr)⟩

theorem AgreeBelow.mono {n m : Nat} {h h' : Heap} (a : AgreeBelow n h h') (hm : m ≤ n) : AgreeBelow m h h' :=
  ⟨fun r hr => a.rows r (by omega), fun r hr => a.cells r (by omega), fun r hr => a.obj r (by omega),
   fun r hr => a.tf r (by omega), fun r hr => a.agent r (by omega)⟩

/-- a heap evolution that leaves everything below `n` alone -/
structure StepFrom (n : Nat) (h h' : Heap) : Prop where
  agree : AgreeBelow n h h'
  writes : ∀ r ∈ h'.writes, r ∈ h.writes ∨ n ≤ r
  next : h.next ≤ h'.next

theorem StepFrom.refl (n : Nat) (h : Heap) : StepFrom n h h :=
  ⟨AgreeBelow.refl n h, fun _ hr => Or.inl hr, Nat.le_refl _⟩

theorem StepFrom.trans {n : Nat} {h1 h2 h3 : Heap} (a : StepFrom n h1 h2) (b : StepFrom n h2 h3) :
    StepFrom n h1 h3 :=
  ⟨a.agree.trans b.agree, fun r hr => (b.writes r hr).elim (a.writes r) Or.inr, Nat.le_trans a.next b.next⟩

theorem writes_cons {n : Nat} {r : Ref} (hr : n ≤ r) (ws : List Ref) : ∀ x ∈ r :: ws, x ∈ ws ∨ n ≤ x := by
  intro x hx
  rcases List.mem_cons.mp hx with rfl | hx
  · exact Or.inr hr
  · exact Or.inl hx

theorem step_setCells (n : Nat) (h : Heap) (r : Ref) (cs : List Ref) (hr : n ≤ r) :
    StepFrom n h (h.setCells r cs) :=
  ⟨⟨fun _ _ => rfl, fun x hx => if_neg (by omega : ¬ x = r), fun _ _ => rfl, fun _ _ => rfl, fun _ _ => rfl⟩,
   writes_cons hr _, Nat.le_refl _⟩

theorem step_setObj (n : Nat) (h : Heap) (r : Ref) (o : HObj) (hr : n ≤ r) : StepFrom n h (h.setObj r o) :=
  ⟨⟨fun _ _ => rfl, fun _ _ => rfl, fun x hx => if_neg (by omega : ¬ x = r), fun _ _ => rfl, fun _ _ => rfl⟩,
   writes_cons hr _, Nat.le_refl _⟩

theorem step_setTf (n : Nat) (h : Heap) (r : Ref) (t : Transform) (hr : n ≤ r) : StepFrom n h (h.setTf r t) :=
  ⟨⟨fun _ _ => rfl, fun _ _ => rfl, fun _ _ => rfl, fun x hx => if_neg (by omega : ¬ x = r), fun _ _ => rfl⟩,
   writes_cons hr _, Nat.le_refl _⟩

theorem step_setAgent (n : Nat) (h : Heap) (r : Ref) (a : Ref × Ref) (hr : n ≤ r) :
    StepFrom n h (h.setAgent r a) :=
  ⟨⟨fun _ _ => rfl, fun _ _ => rfl, fun _ _ => rfl, fun _ _ => rfl, fun x hx => if_neg (by omega : ¬ x = r)⟩,
   writes_cons hr _, Nat.le_refl _⟩

/-- `h'` extends `h`: everything allocated in `h` is untouched, nothing was assigned -/
structure Ext (h h' : Heap) : Prop where
  next : h.next ≤ h'.next
  agree : AgreeBelow h.next h h'
  writes : h'.writes = h.writes

theorem Ext.refl (h : Heap) : Ext h h := ⟨Nat.le_refl _, AgreeBelow.refl _ h, rfl⟩

theorem Ext.trans {h1 h2 h3 : Heap} (a : Ext h1 h2) (b : Ext h2 h3) : Ext h1 h3 :=
  ⟨Nat.le_trans a.next b.next, a.agree.trans (b.agree.mono a.next), by rw [b.writes, a.writes]⟩

theorem Ext.toStep {h h' : Heap} (e : Ext h h') {n : Nat} (hn : n ≤ h.next) : StepFrom n h h' :=
  ⟨e.agree.mono hn, fun _ hr => Or.inl (e.writes ▸ hr), e.next⟩

theorem newObj_objOf (h : Heap) (o : HObj) : (h.newObj o).2.objOf h.next = o := if_pos rfl

theorem ext_newObj (h : Heap) (o : HObj) : Ext h (h.newObj o).2 :=
  ⟨Nat.le_succ _, ⟨fun _ _ => rfl, fun _ _ => rfl, fun _ hx => if_neg (Nat.ne_of_lt hx), fun _ _ => rfl, fun _ _ => rfl⟩, rfl⟩
theorem ext_newCells (h : Heap) (o : List Ref) : Ext h (h.newCells o).2 :=
  ⟨Nat.le_succ _, ⟨fun _ _ => rfl, fun _ hx => if_neg (Nat.ne_of_lt hx), fun _ _ => rfl, fun _ _ => rfl, fun _ _ => rfl⟩, rfl⟩
theorem ext_newRows (h : Heap) (o : List Ref) : Ext h (h.newRows o).2 :=
  ⟨Nat.le_succ _, ⟨fun _ hx => if_neg (Nat.ne_of_lt hx), fun _ _ => rfl, fun _ _ => rfl, fun _ _ => rfl, fun _ _ => rfl⟩, rfl⟩
theorem ext_newTf (h : Heap) (o : Transform) : Ext h (h.newTf o).2 :=
  ⟨Nat.le_succ _, ⟨fun _ _ => rfl, fun _ _ => rfl, fun _ _ => rfl, fun _ hx => if_neg (Nat.ne_of_lt hx), fun _ _ => rfl⟩, rfl⟩
theorem ext_newAgent (h : Heap) (o : Ref × Ref) : Ext h (h.newAgent o).2 :=
  ⟨Nat.le_succ _, ⟨fun _ _ => rfl, fun _ _ => rfl, fun _ _ => rfl, fun _ _ => rfl, fun _ hx => if_neg (Nat.ne_of_lt hx)⟩, rfl⟩

/-- the part of the heap at or above `n` is closed under box content: what `actuateBox` needs, which puts
the content of a box of the state into the grid -/
def Closed (n : Nat) (h : Heap) : Prop := ∀ r, n ≤ r → ∀ c, (h.objOf r).content = some c → n ≤ c

/-- unallocated memory holds nothing (the heaps `loads` builds from the empty heap) -/
def Clean (h : Heap) : Prop := ∀ r, h.next ≤ r → (h.objOf r).content = none

theorem Clean.closed {h : Heap} (c : Clean h) : Closed h.next h := by
  intro r hr x hx; rw [c r hr] at hx; cases hx

theorem clean_empty : Clean Heap.empty := fun _ _ => rfl

/-- `Ext` together with what it did to the object nodes, in the form on which `Closed` and `Clean` both ride -/
structure Alloc (h h' : Heap) : Prop where
  ext : Ext h h'
  obj : ∀ r, h'.objOf r = h.objOf r ∨ (r < h'.next ∧ ∀ c, (h'.objOf r).content = some c → h.next ≤ c)

theorem Alloc.refl (h : Heap) : Alloc h h := ⟨Ext.refl h, fun _ => Or.inl rfl⟩

theorem Alloc.trans {h1 h2 h3 : Heap} (a : Alloc h1 h2) (b : Alloc h2 h3) : Alloc h1 h3 := by
  refine ⟨a.ext.trans b.ext, fun r => ?_⟩
  rcases b.obj r with e | ⟨hi, hc⟩
  · rw [e]
    exact (a.obj r).imp_right fun ⟨hi, hc⟩ => ⟨Nat.lt_of_lt_of_le hi b.ext.next, hc⟩
  · exact Or.inr ⟨hi, fun c h => Nat.le_trans a.ext.next (hc c h)⟩

theorem Ext.alloc {h h' : Heap} (e : Ext h h') (ho : h'.objOf = h.objOf) : Alloc h h' :=
  ⟨e, fun r => Or.inl (by rw [ho])⟩

theorem Alloc.newObj {h h' : Heap} (a : Alloc h h') (o : HObj) (ho : ∀ c, o.content = some c → h.next ≤ c) :
    Alloc h (h'.newObj o).2 := by
  refine ⟨a.ext.trans (ext_newObj h' o), fun r => ?_⟩
  by_cases e : r = h'.next
  · subst e
    exact Or.inr ⟨Nat.lt_succ_self _, fun c hc => ho c (newObj_objOf h' o ▸ hc)⟩
  · rw [show (h'.newObj o).2.objOf r = h'.objOf r from if_neg e]
    exact (a.obj r).imp_right fun ⟨hi, hc⟩ => ⟨Nat.lt_succ_of_lt hi, hc⟩

theorem Alloc.closed {h h' : Heap} (a : Alloc h h') {n : Nat} (hn : n ≤ h.next) (c : Closed n h) : Closed n h' := by
  intro r hr x hx
  rcases a.obj r with e | ⟨_, hc⟩
  · rw [e] at hx; exact c r hr x hx
  · exact Nat.le_trans hn (hc x hx)

theorem Alloc.clean {h h' : Heap} (a : Alloc h h') (c : Clean h) : Clean h' := by
  intro r hr
  rcases a.obj r with e | ⟨hi, _⟩
  · rw [e]; exact c r (Nat.le_trans a.ext.next hr)
  · exact absurd hi (Nat.not_lt.mpr hr)

/-- what a `load*` function guarantees: only allocation, closedness kept, the result is new -/
structure Loaded (n : Nat) (h : Heap) (r : Ref × Heap) : Prop where
  ext : Ext h r.2
  closed : Closed n r.2
  lo : h.next ≤ r.1
  hi : r.1 < r.2.next

/-- a row list of width `w` whose cells all lie at or above `n` (`OwnedFrom.rows`, per row) -/
def RowOK (n w : Nat) (h : Heap) (r : Ref) : Prop := (h.cellsOf r).length = w ∧ ∀ c ∈ h.cellsOf r, n ≤ c

theorem RowOK.stable (n w : Nat) (h h' : Heap) (r : Ref) (e : Ext h h') (hr : r < h.next) (p : RowOK n w h r) :
    RowOK n w h' r := by
  unfold RowOK at *
  rw [e.agree.cells r hr]; exact p

/-- all nodes of the state live at or above `n`: the invariant of a state the call allocated itself -/
structure OwnedFrom (n : Nat) (hp : Heap) (s : HState) : Prop where
  le : n ≤ hp.next
  agent : n ≤ s.agent
  rowsLen : (hp.rowsOf s.outer).length = s.h
  rows : ∀ row ∈ hp.rowsOf s.outer, n ≤ row ∧ (hp.cellsOf row).length = s.w ∧ ∀ c ∈ hp.cellsOf row, n ≤ c
  tf : n ≤ (hp.agentOf s.agent).1
  held : n ≤ (hp.agentOf s.agent).2
  closed : ∀ r, n ≤ r → ∀ c, (hp.objOf r).content = some c → n ≤ c

/-- `s.contains` unfolds to `Grid.contains` of any grid of `s`'s shape, so the grid lemmas apply to it -/
theorem HState.toNat_lt {s : HState} {p : Pos} (h : s.contains p = true) : p.y.toNat < s.h ∧ p.x.toNat < s.w :=
  Grid.toNat_lt (g := ⟨s.h, s.w, []⟩) h

theorem HState.contains_natCast {s : HState} {i j : Nat} (hi : i < s.h) (hj : j < s.w) :
    s.contains ⟨(i : Int), (j : Int)⟩ = true :=
  Grid.contains_natCast ⟨s.h, s.w, []⟩ hi hj

structure Shaped (hp : Heap) (s : HState) : Prop where
  rowsLen : (hp.rowsOf s.outer).length = s.h
  rows : ∀ row ∈ hp.rowsOf s.outer, (hp.cellsOf row).length = s.w

theorem Shaped.locate {hp : Heap} {s : HState} (sh : Shaped hp s) {p : Pos} (hc : s.contains p = true) :
    ∃ (hy : p.y.toNat < (hp.rowsOf s.outer).length)
      (hx : p.x.toNat < (hp.cellsOf (hp.rowsOf s.outer)[p.y.toNat]).length),
      (hp.rowsOf s.outer).getD p.y.toNat 0 = (hp.rowsOf s.outer)[p.y.toNat] ∧
      hp.cellRef s p = (hp.cellsOf (hp.rowsOf s.outer)[p.y.toNat])[p.x.toNat] := by
  have hy : p.y.toNat < (hp.rowsOf s.outer).length := sh.rowsLen ▸ (HState.toNat_lt hc).1
  have hrow := getD_of_lt (0 : Ref) hy
  have hx : p.x.toNat < (hp.cellsOf (hp.rowsOf s.outer)[p.y.toNat]).length :=
    sh.rows _ (List.getElem_mem hy) ▸ (HState.toNat_lt hc).2
  exact ⟨hy, hx, hrow, by rw [Heap.cellRef, hrow, getD_of_lt 0 hx]⟩

theorem Shaped.absGrid_WF {hp : Heap} {s : HState} (sh : Shaped hp s) : (hp.absGrid s).WF := by
  refine ⟨(List.length_map _).trans sh.rowsLen, fun row hrow => ?_⟩
  obtain ⟨r, hr, rfl⟩ := List.mem_map.mp hrow
  exact (List.length_map _).trans (sh.rows r hr)

theorem Shaped.absGrid_at {hp : Heap} {s : HState} (sh : Shaped hp s) {p : Pos} (hc : s.contains p = true) :
    (hp.absGrid s).at p = hp.absObj boxFuel (hp.cellRef s p) := by
  obtain ⟨hy, hx, _, e⟩ := sh.locate hc
  rw [Grid.at_of_contains _ _ (show (hp.absGrid s).contains p = true from hc), e]
  simp [Grid.cell, Heap.absGrid, hy, hx]

theorem Shaped.assignCell {hp : Heap} {s : HState} (sh : Shaped hp s) (p : Pos) (r : Ref) :
    Shaped (hp.assignCell s p r) s ∧
    ∀ row, ∀ c ∈ (hp.assignCell s p r).cellsOf row, c ∈ hp.cellsOf row ∨ c = r := by
  refine ⟨⟨sh.rowsLen, fun row hrow => ?_⟩, fun row c hc => ?_⟩
  · simp only [Heap.assignCell, Heap.setCells]
    split
    · rename_i e; subst e; simpa using sh.rows _ hrow
    · exact sh.rows _ hrow
  · simp only [Heap.assignCell, Heap.setCells] at hc
    split at hc
    · rename_i e; subst e; exact List.mem_or_eq_of_mem_set hc
    · exact Or.inl hc

/-- `grid[p] = r` at an in-grid `p` assigns through a row list of `s` (whatever the rows' lengths: a
row index out of range would assign through reference 0, a column index out of range only logs) -/
theorem assignCell_step {n : Nat} {hp : Heap} {s : HState} (hlen : (hp.rowsOf s.outer).length = s.h)
    (hrows : ∀ row ∈ hp.rowsOf s.outer, n ≤ row) {p : Pos} (hc : s.contains p = true) (r : Ref) :
    StepFrom n hp (hp.assignCell s p r) := by
  have hy : p.y.toNat < (hp.rowsOf s.outer).length := hlen ▸ (HState.toNat_lt hc).1
  simp only [Heap.assignCell, getD_of_lt 0 hy]
  exact step_setCells n hp _ _ (hrows _ (List.getElem_mem hy))

theorem OwnedFrom.shaped {n : Nat} {hp : Heap} {s : HState} (o : OwnedFrom n hp s) : Shaped hp s :=
  ⟨o.rowsLen, fun row hrow => (o.rows row hrow).2.1⟩

theorem OwnedFrom.cellRef_ge {n : Nat} {hp : Heap} {s : HState} (o : OwnedFrom n hp s) {p : Pos}
    (hc : s.contains p = true) : n ≤ hp.cellRef s p := by
  obtain ⟨hy, hx, _, e⟩ := o.shaped.locate hc
  rw [e]; exact (o.rows _ (List.getElem_mem hy)).2.2 _ (List.getElem_mem hx)

/-- what an in-place function may do to a heap on which `s` lives at or above `n` -/
structure Frame (n : Nat) (s : HState) (hp hp' : Heap) : Prop where
  step : StepFrom n hp hp'
  owned : OwnedFrom n hp' s

theorem Frame.refl {n : Nat} {s : HState} {hp : Heap} (o : OwnedFrom n hp s) : Frame n s hp hp :=
  ⟨StepFrom.refl n hp, o⟩

theorem Frame.trans {n : Nat} {s : HState} {h1 h2 h3 : Heap} (a : Frame n s h1 h2) (b : Frame n s h2 h3) :
    Frame n s h1 h3 := ⟨a.step.trans b.step, b.owned⟩

theorem Frame.ite {n : Nat} {s : HState} {hp hp' : Heap} (o : OwnedFrom n hp s) {b : Prop} [Decidable b]
    (h : b → Frame n s hp hp') : Frame n s hp (if b then hp' else hp) := by
  split
  · exact h ‹_›
  · exact Frame.refl o

/-- In this and the following lemmas `{ o with … }` is the invariant after the write: a field not named
reads, once the write is unfolded, what it read before. -/
theorem setTf_frame {n : Nat} {hp : Heap} {s : HState} (o : OwnedFrom n hp s) (t : Transform) :
    Frame n s hp (hp.setTf (hp.agentOf s.agent).1 t) :=
  ⟨step_setTf n hp _ t o.tf, { o with }⟩

theorem newObj_frame {n : Nat} {hp : Heap} {s : HState} (o : OwnedFrom n hp s) (ob : Obj) :
    Frame n s hp (hp.newObj ⟨ob, none⟩).2 :=
  ⟨(ext_newObj hp _).toStep o.le,
   { o with le := Nat.le_succ_of_le o.le
            closed := ((Alloc.refl hp).newObj ⟨ob, none⟩ fun c h => by cases h).closed o.le o.closed }⟩

theorem setObj_objOf (hp : Heap) (r : Ref) (o : HObj) : (hp.setObj r o).objOf r = o := if_pos rfl

theorem setObj_content (hp : Heap) (r : Ref) (ob : Obj) (x : Ref) :
    ((hp.setObj r { hp.objOf r with obj := ob }).objOf x).content = (hp.objOf x).content := by
  simp only [Heap.setObj]
  split
  · rename_i e; rw [e]
  · rfl

theorem setObj_frame {n : Nat} {hp : Heap} {s : HState} (o : OwnedFrom n hp s) {r : Ref} (hr : n ≤ r) (ob : Obj) :
    Frame n s hp (hp.setObj r { hp.objOf r with obj := ob }) :=
  ⟨step_setObj n hp r _ hr,
   { o with closed := fun x hx c hc => o.closed x hx c ((setObj_content hp r ob x).symm.trans hc) }⟩

theorem assignCell_frame {n : Nat} {hp : Heap} {s : HState} (o : OwnedFrom n hp s) {p : Pos}
    (hc : s.contains p = true) {r : Ref} (hr : n ≤ r) : Frame n s hp (hp.assignCell s p r) := by
  obtain ⟨sh, hcells⟩ := o.shaped.assignCell p r
  refine ⟨assignCell_step o.rowsLen (fun row h => (o.rows row h).1) hc r,
    { o with rows := fun row hrow => ⟨(o.rows row hrow).1, sh.rows row hrow, fun c hc' => ?_⟩ }⟩
  rcases hcells row c hc' with h | rfl
  · exact (o.rows row hrow).2.2 c h
  · exact hr

/-- `agent.grid_object = r`, which `hPickndrop` spells out: the twin of the model's `Heap.setPos` -/
abbrev Heap.setHeld (hp : Heap) (s : HState) (r : Ref) : Heap := hp.setAgent s.agent ((hp.agentOf s.agent).1, r)

theorem setHeld_agentOf (hp : Heap) (s : HState) (r : Ref) :
    (hp.setHeld s r).agentOf s.agent = ((hp.agentOf s.agent).1, r) := if_pos rfl

theorem setHeld_frame {n : Nat} {hp : Heap} {s : HState} (o : OwnedFrom n hp s) {r : Ref} (hr : n ≤ r) :
    Frame n s hp (hp.setHeld s r) := by
  refine ⟨step_setAgent n hp _ _ o.agent, { o with tf := ?_, held := ?_ }⟩
  · rw [setHeld_agentOf]; exact o.tf
  · rw [setHeld_agentOf]; exact hr

theorem moveAgent_frame {n : Nat} {hp : Heap} {s : HState} (o : OwnedFrom n hp s) (a : Action) :
    Frame n s hp (hMoveAgent hp s a) := by
  unfold hMoveAgent
  refine Frame.ite o fun _ => Frame.ite o fun _ => ?_
  split
  · exact Frame.refl o
  · exact setTf_frame o _

theorem turnAgent_frame {n : Nat} {hp : Heap} {s : HState} (o : OwnedFrom n hp s) (a : Action) :
    Frame n s hp (hTurnAgent hp s a) := by
  unfold hTurnAgent
  split
  · exact Frame.refl o
  · exact setTf_frame o _

/-- `grid[front] = rc; agent.grid_object = rh` -/
theorem placeBoth_frame {n : Nat} {hp : Heap} {s : HState} (o : OwnedFrom n hp s) {front : Pos}
    (hc : s.contains front = true) {rc rh : Ref} (hrc : n ≤ rc) (hrh : n ≤ rh) :
    Frame n s hp ((hp.assignCell s front rc).setHeld s rh) :=
  have h1 := assignCell_frame o hc hrc
  h1.trans (setHeld_frame h1.owned hrh)

/-- the new objects first (allocation and `grid[front] = …` commute), then the two assignments -/
theorem pickndrop_frame {n : Nat} {hp : Heap} {s : HState} (o : OwnedFrom n hp s) (a : Action) :
    Frame n s hp (hPickndrop hp s a) := by
  unfold hPickndrop
  refine Frame.ite o fun _ => Frame.ite o fun hfront => Frame.ite o fun _ => ?_
  have hfr := o.cellRef_ge hfront
  have f1 := newObj_frame o .floor
  by_cases h1 : (hp.objOf (hp.heldRef s)).obj.isKind .noneObj = true <;>
    by_cases h2 : (hp.objOf (hp.cellRef s (hp.front s))).obj.holdable = true <;>
    simp only [h1, h2, if_true, if_false, Bool.false_eq_true]
  · exact f1.trans (placeBoth_frame f1.owned hfront o.le hfr)
  · have f2 := newObj_frame f1.owned .noneObj
    exact f1.trans (f2.trans (placeBoth_frame f2.owned hfront o.le f1.owned.le))
  · exact placeBoth_frame o hfront o.held hfr
  · have f2 := newObj_frame o .noneObj
    exact f2.trans (placeBoth_frame f2.owned hfront o.held o.le)

theorem swapCells_frame {n : Nat} {hp : Heap} {s : HState} (o : OwnedFrom n hp s) {p q : Pos}
    (hp' : s.contains p = true) (hq : s.contains q = true) : Frame n s hp (hp.swapCells s p q) := by
  unfold Heap.swapCells
  have h1 := assignCell_frame o hp' (o.cellRef_ge hq)
  exact h1.trans (assignCell_frame h1.owned hq (o.cellRef_ge hp'))

theorem obstacleTarget_contains {hp : Heap} {s : HState} {p : Pos} (hp' : s.contains p = true) (i : Nat) :
    s.contains (((manhattanBoundary p 1).filter fun q =>
      s.contains q && (hp.objOf (hp.cellRef s q)).obj.isKind .floor).getD i p) = true := by
  apply getD_of_forall (P := fun q => s.contains q = true) _ _ _ hp'
  intro q hq
  have := (List.mem_filter.mp hq).2
  simp only [Bool.and_eq_true] at this
  exact this.1

theorem obstacleStep_frame {n : Nat} {hp : Heap} {s : HState} (o : OwnedFrom n hp s) (p : Pos)
    (hp' : s.contains p = true) (d : DrawSt) : Frame n s hp (hObstacleStep s hp p d).1 := by
  unfold hObstacleStep
  simp only []
  split
  · exact Frame.refl o
  · exact swapCells_frame o hp' (obstacleTarget_contains hp' _)

theorem mem_rowMajor {s : HState} {p : Pos}
    (h : p ∈ (List.range s.h).flatMap fun (i : Nat) => (List.range s.w).map fun (j : Nat) => (⟨(i : Int), (j : Int)⟩ : Pos)) :
    s.contains p = true :=
  (Grid.mem_positions ⟨s.h, s.w, []⟩ p).mp h

theorem mem_findCells {hp : Heap} {s : HState} {f : Obj → Bool} {p : Pos} (h : p ∈ hp.findCells s f) :
    s.contains p = true :=
  mem_rowMajor (List.mem_filter.mp h).1

theorem obstaclesFold_frame {n : Nat} {s : HState} (ps : List Pos) (hps : ∀ p ∈ ps, s.contains p = true)
    (acc : Heap × DrawSt) (o : OwnedFrom n acc.1 s) :
    Frame n s acc.1 (ps.foldl (fun (acc : Heap × DrawSt) p => hObstacleStep s acc.1 p acc.2) acc).1 := by
  induction ps generalizing acc with
  | nil => exact Frame.refl o
  | cons p ps ih =>
    simp only [List.foldl_cons]
    have h1 := obstacleStep_frame o p (hps p (List.mem_cons_self ..)) acc.2
    exact h1.trans (ih (fun q hq => hps q (List.mem_cons_of_mem _ hq)) (hObstacleStep s acc.1 p acc.2) h1.owned)

theorem moveObstacles_frame {n : Nat} {hp : Heap} {s : HState} (o : OwnedFrom n hp s) (d : DrawSt) :
    Frame n s hp (hMoveObstacles hp s d).1 :=
  obstaclesFold_frame _ (fun _ h => mem_findCells h) (hp, d) o

theorem actuateDoor_frame {n : Nat} {hp : Heap} {s : HState} (o : OwnedFrom n hp s) (a : Action) :
    Frame n s hp (hActuateDoor hp s a) := by
  unfold hActuateDoor
  refine Frame.ite o fun _ => Frame.ite o fun hfront => ?_
  simp only []
  repeat' split
  all_goals first
    | exact Frame.refl o
    | exact setObj_frame o (o.cellRef_ge hfront) _

theorem actuateBox_frame {n : Nat} {hp : Heap} {s : HState} (o : OwnedFrom n hp s) (a : Action) :
    Frame n s hp (hActuateBox hp s a) := by
  unfold hActuateBox
  refine Frame.ite o fun _ => Frame.ite o fun hfront => ?_
  simp only []
  split
  · rename_i c _ hcont
    exact assignCell_frame o hfront (o.closed _ (o.cellRef_ge hfront) c hcont)
  · exact Frame.refl o

theorem teleport_frame {n : Nat} {hp : Heap} {s : HState} (o : OwnedFrom n hp s) (d : DrawSt) :
    Frame n s hp (hTeleport hp s d).1 := by
  unfold hTeleport
  simp only []
  repeat' split
  all_goals first | exact Frame.refl o | exact setTf_frame o _

theorem atom_frame {n : Nat} {hp : Heap} {s : HState} (o : OwnedFrom n hp s) (f : TransAtom) (a : Action)
    (d : DrawSt) : Frame n s hp (hRunAtom f hp s a d).1 := by
  cases f
  · exact moveAgent_frame o a
  · exact turnAgent_frame o a
  · exact pickndrop_frame o a
  · exact moveObstacles_frame o d
  · exact actuateDoor_frame o a
  · exact actuateBox_frame o a
  · exact teleport_frame o d

theorem chain_frame {n : Nat} {s : HState} (fs : List TransAtom) (hp : Heap) (o : OwnedFrom n hp s)
    (a : Action) (d : DrawSt) : Frame n s hp (hRunChain fs hp s a d).1 := by
  induction fs generalizing hp d with
  | nil => exact Frame.refl o
  | cons f fs ih =>
    simp only [hRunChain]
    have h1 := atom_frame o f a d
    exact h1.trans (ih _ h1.owned _)

theorem hideCells_step {n : Nat} {o : HState} (m : Mask) (ps : List Pos) (hps : ∀ p ∈ ps, o.contains p = true)
    (hp : Heap) (hn : n ≤ hp.next) (hlen : (hp.rowsOf o.outer).length = o.h)
    (hrows : ∀ row ∈ hp.rowsOf o.outer, n ≤ row) : StepFrom n hp (hp.hideCells o m ps) := by
  induction ps generalizing hp with
  | nil => exact StepFrom.refl n hp
  | cons p ps ih =>
    simp only [Heap.hideCells]
    split
    · exact ih (fun q hq => hps q (List.mem_cons_of_mem _ hq)) hp hn hlen hrows
    · -- neither the new `Hidden()` nor the assignment touches the outer list
      have s1 := (ext_newObj hp ⟨.hidden, none⟩).toStep hn
      have s2 := assignCell_step (hp := (hp.newObj ⟨.hidden, none⟩).2) hlen hrows (hps p (List.mem_cons_self ..)) hp.next
      exact (s1.trans s2).trans (ih (fun q hq => hps q (List.mem_cons_of_mem _ hq)) _
        (Nat.le_trans hn (s1.trans s2).next) hlen hrows)

theorem buildRow_ext (l : List (Option Ref)) (h : Heap) : Ext h (h.buildRow l).2 := by
  induction l generalizing h with
  | nil => exact Ext.refl h
  | cons x xs ih =>
    cases x with
    | some r => exact ih h
    | none => exact (ext_newObj h _).trans (ih _)

theorem buildRows_spec (l : List (List (Option Ref))) (h : Heap) :
    Ext h (h.buildRows l).2 ∧ (h.buildRows l).1.length = l.length ∧ ∀ r ∈ (h.buildRows l).1, h.next ≤ r := by
  induction l generalizing h with
  | nil => exact ⟨Ext.refl h, rfl, fun r hr => by cases hr⟩
  | cons row rest ih =>
    simp only [Heap.buildRows]
    have e1 := buildRow_ext row h
    obtain ⟨e3, len3, all3⟩ := ih ((h.buildRow row).2.newCells (h.buildRow row).1).2
    refine ⟨e1.trans ((ext_newCells _ _).trans e3), congrArg (· + 1) len3, fun x hx => ?_⟩
    rcases List.mem_cons.mp hx with rfl | hx
    · exact e1.next
    · exact Nat.le_trans (Nat.le_succ_of_le e1.next) (all3 x hx)

/-- the `k`-th reference down the content chain of `r` (a box's content, its content, …) -/
def Heap.chainAt (hp : Heap) : Nat → Ref → Option Ref
  | 0, r => some r
  | k + 1, r =>
    match (hp.objOf r).content with
    | some c => hp.chainAt k c
    | none => none

/-- the object at `r` is a faithful, allocated representation of the value `o` -/
def Denotes (h : Heap) (r : Ref) (o : Obj) : Prop :=
  r < h.next ∧ (h.objOf r).obj = o ∧
  match o with
  | .box c => ∃ cr, (h.objOf r).content = some cr ∧ Denotes h cr c
  | _ => (h.objOf r).content = none

theorem chainAt_succ {hp : Heap} {r c : Ref} (hc : (hp.objOf r).content = some c) (k : Nat) :
    hp.chainAt (k + 1) r = hp.chainAt k c := by
  simp only [Heap.chainAt, hc]

theorem chainAt_leaf {hp : Heap} {r x : Ref} (hl : (hp.objOf r).content = none) {k : Nat}
    (h : hp.chainAt k r = some x) : k = 0 ∧ x = r := by
  cases k with
  | zero => exact ⟨rfl, (Option.some.inj h).symm⟩
  | succ k => simp only [Heap.chainAt, hl] at h; cases h

theorem Denotes.lt {h : Heap} {r : Ref} {o : Obj} (d : Denotes h r o) : r < h.next := by
  unfold Denotes at d; exact d.1

theorem Denotes.obj {h : Heap} {r : Ref} {o : Obj} (d : Denotes h r o) : (h.objOf r).obj = o := by
  unfold Denotes at d; exact d.2.1

theorem Denotes.box_iff {h : Heap} {r : Ref} {c : Obj} :
    Denotes h r (.box c) ↔
      r < h.next ∧ (h.objOf r).obj = .box c ∧ ∃ cr, (h.objOf r).content = some cr ∧ Denotes h cr c := by
  rw [Denotes]

theorem Denotes.leaf_iff {h : Heap} {r : Ref} {o : Obj} (hleaf : ∀ c, o ≠ .box c) :
    Denotes h r o ↔ r < h.next ∧ (h.objOf r).obj = o ∧ (h.objOf r).content = none := by
  cases o with
  | box c => exact absurd rfl (hleaf c)
  | _ => unfold Denotes; exact Iff.rfl

/-- `Denotes` as the inductive predicate it is: a box over an object that denotes the content, or a leaf.
For `induction d using Denotes.ind`. -/
theorem Denotes.ind {h : Heap} {motive : (r : Ref) → (o : Obj) → Denotes h r o → Prop}
    (box : ∀ r c cr (d : Denotes h r (.box c)) (dc : Denotes h cr c), (h.objOf r).content = some cr →
      motive cr c dc → motive r (.box c) d)
    (leaf : ∀ r o (d : Denotes h r o), (∀ c, o ≠ .box c) → (h.objOf r).content = none → motive r o d)
    {r : Ref} {o : Obj} (d : Denotes h r o) : motive r o d := by
  induction o generalizing r with
  | box c ih =>
    obtain ⟨_, _, cr, hc, dc⟩ := Denotes.box_iff.mp d
    exact box r c cr d dc hc (ih dc)
  | _ => exact leaf r _ d (fun _ e => by cases e) ((Denotes.leaf_iff fun _ e => by cases e).mp d).2.2

theorem Denotes.chain_lt {h : Heap} {o : Obj} {r : Ref} (d : Denotes h r o) (k : Nat) (x : Ref)
    (hx : h.chainAt k r = some x) : x < h.next := by
  induction d using Denotes.ind generalizing k with
  | box r c cr d _ hc ih =>
    cases k with
    | zero => exact Option.some.inj hx ▸ d.lt
    | succ k => exact ih k (chainAt_succ hc k ▸ hx)
  | leaf r o d _ hc => rw [(chainAt_leaf hc hx).2]; exact d.lt

theorem Denotes.congr {h h' : Heap} {o : Obj} {r : Ref} (d : Denotes h r o) (hn : h.next ≤ h'.next)
    (he : ∀ k x, h.chainAt k r = some x → h'.objOf x = h.objOf x) : Denotes h' r o := by
  induction d using Denotes.ind with
  | box r c cr d _ hc ih =>
    have e0 := he 0 r rfl
    exact Denotes.box_iff.mpr ⟨Nat.lt_of_lt_of_le d.lt hn, by rw [e0]; exact d.obj, cr, by rw [e0]; exact hc,
      ih fun k x hx => he (k + 1) x ((chainAt_succ hc k).trans hx)⟩
  | leaf r o d hleaf hc =>
    have e0 := he 0 r rfl
    exact (Denotes.leaf_iff hleaf).mpr ⟨Nat.lt_of_lt_of_le d.lt hn, by rw [e0]; exact d.obj, by rw [e0]; exact hc⟩

theorem Denotes.same {h h' : Heap} {r : Ref} {o : Obj} (d : Denotes h r o) (hn : h'.next = h.next)
    (ho : h'.objOf = h.objOf) : Denotes h' r o :=
  d.congr (Nat.le_of_eq hn.symm) fun _ _ _ => by rw [ho]

theorem Denotes.stable {h h' : Heap} (e : Ext h h') (o : Obj) (r : Ref) (d : Denotes h r o) : Denotes h' r o :=
  d.congr e.next fun k x hx => e.agree.obj x (d.chain_lt k x hx)

theorem Denotes.newLeaf (h : Heap) {o : Obj} (hleaf : ∀ c, o ≠ .box c) : Denotes (h.newObj ⟨o, none⟩).2 h.next o :=
  (Denotes.leaf_iff hleaf).mpr ⟨Nat.lt_succ_self _, by rw [newObj_objOf], by rw [newObj_objOf]⟩

theorem Denotes.abs {h : Heap} {o : Obj} {r : Ref} (d : Denotes h r o) (fuel : Nat) : h.absObj fuel r = o := by
  induction d using Denotes.ind generalizing fuel with
  | box r c cr d _ hc ih =>
    cases fuel with
    | zero => exact d.obj
    | succ k => simp only [Heap.absObj, d.obj, hc, ih k]
  | leaf r o d _ hc =>
    cases fuel with
    | zero => exact d.obj
    | succ k => simp only [Heap.absObj, d.obj, hc]

/-- element-wise relation between two lists -/
inductive All₂ {α β : Type} (R : α → β → Prop) : List α → List β → Prop
  | nil : All₂ R [] []
  | cons {a b as bs} : R a b → All₂ R as bs → All₂ R (a :: as) (b :: bs)

theorem All₂.imp {α β : Type} {R S : α → β → Prop} {as : List α} {bs : List β} (f : All₂ R as bs)
    (h : ∀ a b, R a b → S a b) : All₂ S as bs := by
  induction f with
  | nil => exact .nil
  | cons r _ ih => exact .cons (h _ _ r) ih

theorem All₂.of_getElem? {α β : Type} {R : α → β → Prop} : ∀ {as : List α} {bs : List β}, as.length = bs.length →
    (∀ (i : Nat) a b, as[i]? = some a → bs[i]? = some b → R a b) → All₂ R as bs
  | [], [], _, _ => .nil
  | a :: as, b :: bs, hl, h =>
    .cons (h 0 a b rfl rfl) (All₂.of_getElem? (by simpa using hl) fun i x y hx hy => h (i + 1) x y hx hy)

theorem All₂.abs {h : Heap} {rs : List Ref} {os : List Obj} (f : All₂ (Denotes h) rs os) (fuel : Nat) :
    rs.map (h.absObj fuel) = os := by
  induction f with
  | nil => rfl
  | cons d _ ih => simp only [List.map_cons, d.abs fuel, ih]

/-- a row list that faithfully represents a row of values -/
def RowDenotes (h : Heap) (r : Ref) (row : List Obj) : Prop :=
  r < h.next ∧ All₂ (Denotes h) (h.cellsOf r) row

theorem RowDenotes.stable (h h' : Heap) (r : Ref) (row : List Obj) (e : Ext h h') (d : RowDenotes h r row) :
    RowDenotes h' r row := by
  obtain ⟨lt, f⟩ := d
  refine ⟨Nat.lt_of_lt_of_le lt e.next, ?_⟩
  rw [e.agree.cells r lt]
  exact f.imp (fun _ _ d => Denotes.stable e _ _ d)

theorem All₂.rows_abs {h : Heap} {rs : List Ref} {rows : List (List Obj)} (f : All₂ (RowDenotes h) rs rows)
    (fuel : Nat) : rs.map (fun row => (h.cellsOf row).map (h.absObj fuel)) = rows := by
  induction f with
  | nil => rfl
  | cons d _ ih => simp only [List.map_cons, d.2.abs fuel, ih]

end GV
