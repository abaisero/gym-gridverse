/-
  Every floor cell of the room grid is connected to the cell (1, 1): through the passages, room by
  room, towards the top-left room.
-/
import GridVerse.Lemmas.Rooms
import GridVerse.Lemmas.Conn
namespace GV

/-- strictly between the wall rows `py` and the wall columns `px`: a cell of the room they bound -/
def InBox (py px : Int × Int) (q : Pos) : Prop := py.1 < q.y ∧ q.y < py.2 ∧ px.1 < q.x ∧ q.x < px.2

namespace RoomsFinal
variable {h w : Nat} {ys xs : List Int} {g0 g : Grid} {ep : Pos}

theorem free (r : RoomsFinal h w ys xs g0 g ep) (q : Pos) (hc : g0.contains q = true) (hf : g0.at q = .floor) :
    Free g q := by
  refine ⟨by rw [r.contains]; exact hc, ?_⟩
  rw [r.at]
  split
  · rfl
  · rw [hf]; rfl

theorem inside (r : RoomsFinal h w ys xs g0 g ep) {q : Pos} (hq : 0 ≤ q.y ∧ q.y < h ∧ 0 ≤ q.x ∧ q.x < w) :
    g0.contains q = true := by
  rw [Grid.contains_iff, r.base.gh, r.base.gw]; exact hq

theorem room_free (r : RoomsFinal h w ys xs g0 g ep) (sy : SplitsOK h ys) (sx : SplitsOK w xs)
    {py px : Int × Int} (hpy : py ∈ pairwise ys) (hpx : px ∈ pairwise xs) (q : Pos) (hq : InBox py px q) :
    Free g q := by
  obtain ⟨hy, _, _⟩ := sy.between hpy hq.1 hq.2.1
  obtain ⟨hx, _, _⟩ := sx.between hpx hq.2.2.1 hq.2.2.2
  have hc := r.inside (q := q) (by omega)
  exact r.free q hc (r.base.room q hc hy hx)

theorem room_conn (r : RoomsFinal h w ys xs g0 g ep) (sy : SplitsOK h ys) (sx : SplitsOK w xs)
    {py px : Int × Int} (hpy : py ∈ pairwise ys) (hpx : px ∈ pairwise xs) {p q : Pos}
    (hp : InBox py px p) (hq : InBox py px q) : Conn g p q :=
  conn_rect g py.1 py.2 px.1 px.2 (r.room_free sy sx hpy hpx) hp hq

/-- from `p` to the cell `a` of the same room, through the opening `o` beside `a`, to the cell `c` of the
room on the other side -/
theorem through (r : RoomsFinal h w ys xs g0 g ep) (sy : SplitsOK h ys) (sx : SplitsOK w xs)
    {py px py' px' : Int × Int} (hpy : py ∈ pairwise ys) (hpx : px ∈ pairwise xs)
    (hpy' : py' ∈ pairwise ys) (hpx' : px' ∈ pairwise xs) {p a o c : Pos}
    (hp : InBox py px p) (ha : InBox py px a)
    (hao : Adj a o) (ho : g0.contains o = true) (hfl : g0.at o = .floor) (hoc : Adj o c)
    (hc : InBox py' px' c) : Conn g p c :=
  (r.room_conn sy sx hpy hpx hp ha).trans ((Conn.single hao (r.free o ho hfl)).trans
    (Conn.single hoc (r.room_free sy sx hpy' hpx' c hc)))

/-- every room cell is connected to (1, 1): up through the wall rows, then left through the wall columns -/
theorem to_origin (r : RoomsFinal h w ys xs g0 g ep) (sy : SplitsOK h ys) (sx : SplitsOK w xs)
    {p : Pos} {py px : Int × Int} (hpy : py ∈ pairwise ys) (hpx : px ∈ pairwise xs) (hp : InBox py px p) :
    Conn g p ⟨1, 1⟩ := by
  induction hn : (py.1 + px.1).toNat using Nat.strongRecOn generalizing p py px with
  | _ n ih =>
    obtain ⟨by1, gy, by2⟩ := sy.pair hpy
    obtain ⟨bx1, gx, bx2⟩ := sx.pair hpx
    by_cases hy0 : py.1 = 0
    · by_cases hx0 : px.1 = 0
      · exact r.room_conn sy sx hpy hpx hp (by unfold InBox; simp only; omega)
      · -- left through the passage in the wall column `px.1`
        have hin := sx.left_inner hpx hx0
        obtain ⟨_, p0, hp0⟩ := inner_pairs hin
        obtain ⟨b0, g0', _⟩ : 0 ≤ p0 ∧ p0 + 2 ≤ px.1 ∧ _ := sx.pair hp0
        obtain ⟨u, hu1, hu2, hfl⟩ := r.base.vpass py hpy px.1 hin
        have hc : InBox py (p0, px.1) ⟨u, px.1 - 1⟩ := ⟨hu1, hu2, by simp only; omega, by simp only; omega⟩
        exact (r.through sy sx hpy hpx hpy hp0 (a := ⟨u, px.1 + 1⟩) (o := ⟨u, px.1⟩) (c := ⟨u, px.1 - 1⟩) hp
            ⟨hu1, hu2, by simp only; omega, by simp only; omega⟩ (adj_right u px.1).symm
            (r.inside (by simp only; omega)) hfl (adj_left u px.1) hc).trans
          (ih (py.1 + p0).toNat (by omega) hpy hp0 hc rfl)
    · -- up through the passage in the wall row `py.1`
      have hin := sy.left_inner hpy hy0
      obtain ⟨_, p0, hp0⟩ := inner_pairs hin
      obtain ⟨b0, g0', _⟩ : 0 ≤ p0 ∧ p0 + 2 ≤ py.1 ∧ _ := sy.pair hp0
      obtain ⟨v, hv1, hv2, hfl⟩ := r.base.hpass py.1 hin px hpx
      have hc : InBox (p0, py.1) px ⟨py.1 - 1, v⟩ := ⟨by simp only; omega, by simp only; omega, hv1, hv2⟩
      exact (r.through sy sx hpy hpx hp0 hpx (a := ⟨py.1 + 1, v⟩) (o := ⟨py.1, v⟩) (c := ⟨py.1 - 1, v⟩) hp
          ⟨by simp only; omega, by simp only; omega, hv1, hv2⟩ (adj_down py.1 v).symm
          (r.inside (by simp only; omega)) hfl (adj_up py.1 v) hc).trans
        (ih (p0 + px.1).toNat (by omega) hp0 hpx hc rfl)

theorem floor_to_origin (r : RoomsFinal h w ys xs g0 g ep) (sy : SplitsOK h ys) (sx : SplitsOK w xs) (q : Pos)
    (hc : g0.contains q = true) (hf : g0.at q = .floor) : Conn g q ⟨1, 1⟩ := by
  have hq : 0 ≤ q.y ∧ q.y < h ∧ 0 ≤ q.x ∧ q.x < w := by
    rw [Grid.contains_iff, r.base.gh, r.base.gw] at hc; exact hc
  rcases r.base.floors q hc hf with ⟨hy, hx⟩ | ⟨hy, px, hpx, hx1, hx2⟩ | ⟨hx, py, hpy, hy1, hy2⟩
  · obtain ⟨py, hpy, a1, a2⟩ := sy.locate hy hq.1 hq.2.1
    obtain ⟨px, hpx, b1, b2⟩ := sx.locate hx hq.2.2.1 hq.2.2.2
    exact r.to_origin sy sx hpy hpx ⟨a1, a2, b1, b2⟩
  · -- an opening in a wall row: step down into the room below
    obtain ⟨⟨b, hb⟩, _⟩ := inner_pairs hy
    have gb := (sy.pair hb).2.1
    have hr : InBox (q.y, b) px ⟨q.y + 1, q.x⟩ := ⟨by simp only; omega, by simp only at gb ⊢; omega, hx1, hx2⟩
    exact (Conn.single (adj_down q.y q.x) (r.room_free sy sx hb hpx ⟨q.y + 1, q.x⟩ hr)).trans
      (r.to_origin sy sx hb hpx hr)
  · -- an opening in a wall column: step right into the room beside it
    obtain ⟨⟨b, hb⟩, _⟩ := inner_pairs hx
    have gb := (sx.pair hb).2.1
    have hr : InBox py (q.x, b) ⟨q.y, q.x + 1⟩ := ⟨hy1, hy2, by simp only; omega, by simp only at gb ⊢; omega⟩
    exact (Conn.single (adj_right q.y q.x) (r.room_free sy sx hpy hb ⟨q.y, q.x + 1⟩ hr)).trans
      (r.to_origin sy sx hpy hb hr)

theorem floor_conn (r : RoomsFinal h w ys xs g0 g ep) (sy : SplitsOK h ys) (sx : SplitsOK w xs) (p q : Pos)
    (hp : g0.contains p = true ∧ g0.at p = .floor) (hq : g0.contains q = true ∧ g0.at q = .floor) :
    Conn g p q :=
  (r.floor_to_origin sy sx p hp.1 hp.2).trans
    ((r.floor_to_origin sy sx q hq.1 hq.2).symm (r.free q hq.1 hq.2))

end RoomsFinal
end GV
