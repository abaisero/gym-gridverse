/-
  The row-major lists: `grid.area.positions()` (membership, order, distinctness), `find`, and the
  cells `flat`, which are the positions looked up.
-/
import GridVerse.Lemmas.Grid
namespace GV

theorem Grid.mem_positions (g : Grid) (p : Pos) : p ∈ g.positions ↔ g.contains p = true := by
  simp only [Grid.positions, List.mem_flatMap, List.mem_map, List.mem_range]
  constructor
  · rintro ⟨i, hi, j, hj, rfl⟩
    exact g.contains_natCast hi hj
  · intro hp
    obtain ⟨i, j, hi, hj, rfl⟩ := Grid.exists_natCast hp
    exact ⟨i, hi, j, hj, rfl⟩

theorem Grid.positions_length (g : Grid) : g.positions.length = g.h * g.w := by
  simp [Grid.positions, List.length_flatMap, List.map_const']

/-- row-major order -/
def Pos.rowLt (p q : Pos) : Prop := p.y < q.y ∨ (p.y = q.y ∧ p.x < q.x)

theorem Grid.positions_sorted (g : Grid) : g.positions.Pairwise Pos.rowLt := by
  unfold Grid.positions
  rw [List.pairwise_flatMap]
  constructor
  · intro i _
    rw [List.pairwise_map]
    exact List.pairwise_lt_range.imp fun hab => Or.inr ⟨rfl, by simpa using hab⟩
  · apply List.pairwise_lt_range.imp
    intro a b hab x hx y hy
    simp only [List.mem_map, List.mem_range] at hx hy
    obtain ⟨_, _, rfl⟩ := hx
    obtain ⟨_, _, rfl⟩ := hy
    exact Or.inl (by simpa using hab)

theorem Pos.rowLt.ne {p q : Pos} (h : p.rowLt q) : p ≠ q := by
  rintro rfl
  unfold Pos.rowLt at h
  omega

theorem Grid.positions_nodup (g : Grid) : g.positions.Nodup :=
  (Grid.positions_sorted g).imp Pos.rowLt.ne

theorem Grid.mem_find (g : Grid) (f : Obj → Bool) (p : Pos) :
    p ∈ g.find f ↔ g.contains p = true ∧ f (g.at p) = true := by
  simp [Grid.find, Grid.mem_positions]

theorem Grid.find_nodup (g : Grid) (f : Obj → Bool) : (g.find f).Nodup :=
  List.Pairwise.filter _ (Grid.positions_nodup g)

/-- `find` lists its positions in row-major order, which determines the list -/
theorem Grid.find_eq_of_sorted (g : Grid) (f : Obj → Bool) (l : List Pos) (hs : l.Pairwise Pos.rowLt)
    (hm : ∀ q, q ∈ l ↔ g.contains q = true ∧ f (g.at q) = true) : g.find f = l := by
  apply List.Perm.eq_of_pairwise (le := Pos.rowLt)
  · intro a b _ _ hab hba
    unfold Pos.rowLt at hab hba
    omega
  · exact (Grid.positions_sorted g).filter _
  · exact hs
  · exact (List.perm_ext_iff_of_nodup (Grid.find_nodup g f) (hs.imp Pos.rowLt.ne)).mpr
      fun q => by rw [Grid.mem_find, hm]

theorem Grid.flat_eq_map_positions (g : Grid) (hg : g.WF) : g.flat = g.positions.map g.at := by
  conv => lhs; rw [Grid.eq_tab g hg]
  simp only [Grid.flat, Grid.tab, Grid.positions, List.flatMap_def, List.map_flatten, List.map_map]
  congr 1
  apply List.map_congr_left
  intro i hi
  simp only [Function.comp, List.map_map]
  apply List.map_congr_left
  intro j hj
  exact (Grid.at_natCast g i j (List.mem_range.mp hi) (List.mem_range.mp hj)).symm

theorem Grid.mem_flat_iff (g : Grid) (hg : g.WF) (o : Obj) :
    o ∈ g.flat ↔ ∃ q, g.contains q = true ∧ g.at q = o := by
  simp only [Grid.flat_eq_map_positions g hg, List.mem_map, Grid.mem_positions]

theorem Grid.flat_all_iff (g : Grid) (hg : g.WF) (P : Obj → Bool) :
    g.flat.all P = true ↔ ∀ q, g.contains q = true → P (g.at q) = true := by
  simp only [Grid.flat_eq_map_positions g hg, List.all_map, List.all_eq_true, Grid.mem_positions,
    Function.comp]

theorem Grid.count_eq_length_find (g : Grid) (hg : g.WF) (p : Obj → Bool) :
    g.count p = (g.find p).length := by
  rw [Grid.count, Grid.flat_eq_map_positions g hg, List.filter_map, List.length_map]
  rfl

theorem Grid.count_pos_iff (g : Grid) (hg : g.WF) (p : Obj → Bool) :
    0 < g.count p ↔ ∃ q, g.contains q = true ∧ p (g.at q) = true := by
  simp only [Grid.count_eq_length_find g hg, List.length_pos_iff_exists_mem, Grid.mem_find]

end GV
