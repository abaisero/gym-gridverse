/-
  `rng.shuffle` returns a permutation; the code's `sorted` (insertion sort in the model) returns a
  sorted permutation.  `Sorted`, like `Gapped` of Lemmas/Rooms.lean, asks something of the neighbours
  in a list: `chain_iff_pairwise` hands both to `List.Pairwise`.
-/
import GridVerse.Lemmas.Draw
namespace GV

theorem nodup_range_complete (l : List Nat) (n : Nat) (hnd : l.Nodup) (hlen : l.length = n)
    (hlt : ∀ i ∈ l, i < n) : ∀ a, a < n → a ∈ l := by
  intro a ha
  apply Decidable.byContradiction
  intro hnot
  -- otherwise `l` fits into `range n` without `a`, which is too short
  have hsub : l ⊆ (List.range n).erase a := fun x hx =>
    (List.mem_erase_of_ne (fun (h : x = a) => hnot (h ▸ hx))).2 (List.mem_range.mpr (hlt x hx))
  have := List.Nodup.length_le_of_subset hnd hsub
  rw [List.length_erase, if_pos (List.mem_range.mpr ha), List.length_range, hlen] at this
  omega

theorem shuffle_perm (n : Nat) (d : DrawSt) : (drawShuffle n d).1.Perm (List.range n) := by
  obtain ⟨hl, hnd, hlt⟩ := drawShuffle_spec n d
  rw [List.perm_ext_iff_of_nodup hnd List.nodup_range]
  intro a
  constructor
  · intro h; exact List.mem_range.mpr (hlt a h)
  · intro h; exact nodup_range_complete _ n hnd hl hlt a (List.mem_range.mp h)

theorem map_getD_range {α : Type} (l : List α) (dflt : α) : (List.range l.length).map (fun i => l.getD i dflt) = l := by
  apply List.ext_getElem
  · simp
  · intro i h1 h2
    rw [List.getElem_map, List.getElem_range, getD_of_lt dflt h2]

/-- `rng.shuffle(l)`: the model shuffles an index vector and reads `l` through it -/
theorem shuffled_perm {α : Type} (l : List α) (dflt : α) (d : DrawSt) :
    ((drawShuffle l.length d).1.map fun i => l.getD i dflt).Perm l := by
  have := (shuffle_perm l.length d).map (fun i => l.getD i dflt)
  rw [map_getD_range] at this
  exact this

/-- a predicate `C` that asks a transitive relation `R` of the neighbours in a list (as `Sorted` below and
`Gapped` for the room walls do) holds exactly when `R` holds of any two entries in order: from there on
the library's `List.Pairwise` applies -/
theorem chain_iff_pairwise {R : Int → Int → Prop} {C : List Int → Prop} (tr : ∀ a b c, R a b → R b c → R a c)
    (nil : C []) (one : ∀ a, C [a]) (cons : ∀ a b rest, C (a :: b :: rest) ↔ R a b ∧ C (b :: rest)) :
    ∀ l : List Int, C l ↔ l.Pairwise R
  | [] => iff_of_true nil .nil
  | [a] => iff_of_true (one a) (List.pairwise_singleton R a)
  | a :: b :: rest => by
    rw [cons, chain_iff_pairwise tr nil one cons (b :: rest), List.pairwise_cons (a := a), List.pairwise_cons]
    constructor
    · rintro ⟨hab, hb, hr⟩
      refine ⟨fun x hx => ?_, hb, hr⟩
      rcases List.mem_cons.mp hx with rfl | hx
      · exact hab
      · exact tr a b x hab (hb x hx)
    · rintro ⟨ha, hb, hr⟩
      exact ⟨ha b List.mem_cons_self, hb, hr⟩

/-- non-decreasing -/
def Sorted : List Int → Prop
  | a :: b :: rest => a ≤ b ∧ Sorted (b :: rest)
  | _ => True

theorem sorted_iff_pairwise {l : List Int} : Sorted l ↔ l.Pairwise (· ≤ ·) :=
  chain_iff_pairwise (R := (· ≤ ·)) (fun _ _ _ => Int.le_trans) trivial (fun _ => trivial) (fun _ _ _ => Iff.rfl) l

theorem insertSorted_perm (x : Int) (l : List Int) : (insertSorted x l).Perm (x :: l) := by
  induction l with
  | nil => exact List.Perm.refl _
  | cons y ys ih =>
    simp only [insertSorted]
    split
    · exact List.Perm.refl _
    · exact (List.Perm.cons y ih).trans (List.Perm.swap x y ys)

theorem sortInts_perm (l : List Int) : (sortInts l).Perm l := by
  induction l with
  | nil => exact List.Perm.refl _
  | cons x xs ih =>
    simp only [sortInts, List.foldr_cons]
    exact (insertSorted_perm x _).trans (List.Perm.cons x ih)

theorem insertSorted_pairwise (x : Int) (l : List Int) (hs : l.Pairwise (· ≤ ·)) :
    (insertSorted x l).Pairwise (· ≤ ·) := by
  induction l with
  | nil => exact List.pairwise_singleton _ x
  | cons y ys ih =>
    obtain ⟨hy, hys⟩ := List.pairwise_cons.mp hs
    simp only [insertSorted]
    split
    · next hxy =>
      refine List.pairwise_cons.mpr ⟨fun z hz => ?_, hs⟩
      rcases List.mem_cons.mp hz with rfl | hz
      · exact hxy
      · exact Int.le_trans hxy (hy z hz)
    · next hxy =>
      refine List.pairwise_cons.mpr ⟨fun z hz => ?_, ih hys⟩
      rcases List.mem_cons.mp ((insertSorted_perm x ys).subset hz) with rfl | hz
      · omega
      · exact hy z hz

theorem sortInts_sorted (l : List Int) : Sorted (sortInts l) := by
  refine sorted_iff_pairwise.mpr ?_
  induction l with
  | nil => exact .nil
  | cons x xs ih => exact insertSorted_pairwise x _ ih

end GV
