/-
  Connectivity of non-blocking cells, and from connectivity to reachability of an exit under the
  plain move/turn dynamics.
-/
import GridVerse.Lemmas.Walk
namespace GV

/-- 4-neighbours -/
def Adj (p q : Pos) : Prop := ∃ dir : Orient, q = p.add (Pos.ofOrient dir)

theorem Adj.symm {p q : Pos} (h : Adj p q) : Adj q p := by
  obtain ⟨dir, rfl⟩ := h
  refine ⟨dir.mul .B, ?_⟩
  cases dir <;> (rw [Pos.ext_iff']; simp only [Pos.add, Pos.ofOrient, Orient.mul]; omega)

theorem adj_up (y x : Int) : Adj ⟨y, x⟩ ⟨y - 1, x⟩ := ⟨.F, (Pos.ext_iff' _ _).mpr ⟨rfl, (Int.add_zero x).symm⟩⟩
theorem adj_down (y x : Int) : Adj ⟨y, x⟩ ⟨y + 1, x⟩ := ⟨.B, (Pos.ext_iff' _ _).mpr ⟨rfl, (Int.add_zero x).symm⟩⟩
theorem adj_left (y x : Int) : Adj ⟨y, x⟩ ⟨y, x - 1⟩ := ⟨.L, (Pos.ext_iff' _ _).mpr ⟨(Int.add_zero y).symm, rfl⟩⟩
theorem adj_right (y x : Int) : Adj ⟨y, x⟩ ⟨y, x + 1⟩ := ⟨.R, (Pos.ext_iff' _ _).mpr ⟨(Int.add_zero y).symm, rfl⟩⟩

/-- `q` can be reached from `p` through free cells (`p` itself is not required to be free) -/
inductive Conn (g : Grid) : Pos → Pos → Prop
  | refl (p : Pos) : Conn g p p
  | step (p q r : Pos) : Adj p q → Free g q → Conn g q r → Conn g p r

theorem Conn.trans {g : Grid} {p q r : Pos} (a : Conn g p q) (b : Conn g q r) : Conn g p r := by
  induction a with
  | refl => exact b
  | step p q _ adj fr _ ih => exact .step p q _ adj fr (ih b)

theorem Conn.single {g : Grid} {p q : Pos} (adj : Adj p q) (fq : Free g q) : Conn g p q :=
  .step p q q adj fq (.refl q)

theorem Conn.symm {g : Grid} {p q : Pos} (a : Conn g p q) (fp : Free g p) : Conn g q p := by
  induction a with
  | refl => exact .refl _
  | step p q r adj fr _ ih => exact (ih fr).trans (Conn.single adj.symm fp)

theorem Conn.free_end {g : Grid} {p q : Pos} (a : Conn g p q) (fp : Free g p) : Free g q := by
  induction a with
  | refl => exact fp
  | step p q r _ fr _ ih => exact ih fr

theorem Conn.mono {g g' : Grid} (h : ∀ q, Free g q → Free g' q) {p q : Pos} (c : Conn g p q) : Conn g' p q := by
  induction c with
  | refl => exact .refl _
  | step p q r adj fr _ ih => exact .step p q r adj (h q fr) ih

theorem conn_line (g : Grid) (p : Pos) (dir : Orient) (n : Nat)
    (h : ∀ k : Nat, 1 ≤ k → k ≤ n → Free g (shift p dir k)) : Conn g p (shift p dir n) := by
  induction n with
  | zero => rw [shift_zero]; exact .refl _
  | succ n ih =>
    exact (ih fun k h1 h2 => h k h1 (by omega)).trans
      (Conn.single ⟨dir, shift_succ p dir n⟩ (h (n + 1) (by omega) (Nat.le_refl _)))

/-- two cells of an open rectangle of free cells are connected: along the column, then along the row -/
theorem conn_rect (g : Grid) (y0 y1 x0 x1 : Int)
    (hfree : ∀ q : Pos, y0 < q.y ∧ q.y < y1 ∧ x0 < q.x ∧ q.x < x1 → Free g q)
    {p q : Pos} (hp : y0 < p.y ∧ p.y < y1 ∧ x0 < p.x ∧ p.x < x1) (hq : y0 < q.y ∧ q.y < y1 ∧ x0 < q.x ∧ q.x < x1) :
    Conn g p q := by
  have v := conn_line g p (if q.y < p.y then .F else .B) (q.y - p.y).natAbs fun k hk1 hk2 => by
    obtain ⟨y, e, hb, _⟩ := shift_vert p q.y k hk2
    have := hb hk1
    unfold Btw at this
    rw [e]; exact hfree _ ⟨by simp only; omega, by simp only; omega, hp.2.2.1, hp.2.2.2⟩
  obtain ⟨_, e, _, he⟩ := shift_vert p q.y _ (Nat.le_refl _)
  rw [e, he.mpr rfl] at v
  have hz := conn_line g ⟨q.y, p.x⟩ (if q.x < p.x then .L else .R) (q.x - p.x).natAbs fun k hk1 hk2 => by
    obtain ⟨x, e, hb, _⟩ := shift_horiz ⟨q.y, p.x⟩ q.x k hk2
    have := hb hk1
    unfold Btw at this
    rw [e]; exact hfree _ ⟨hq.1, hq.2.1, by simp only at this ⊢; omega, by simp only at this ⊢; omega⟩
  obtain ⟨_, e, _, he⟩ := shift_horiz ⟨q.y, p.x⟩ q.x _ (Nat.le_refl _)
  rw [e, he.mpr rfl] at hz
  exact v.trans hz

/-- `e` can be reached from `p` through free cells, none of which (except `e` itself) is an exit -/
inductive ConnNoExit (g : Grid) (e : Pos) : Pos → Prop
  | refl : ConnNoExit g e e
  | step (p q : Pos) : Adj p q → Free g q → (q = e ∨ (g.at q).isKind .exit = false) → ConnNoExit g e q →
      ConnNoExit g e p

theorem path_reaches (rest : List TransAtom) (pr : PlainRest rest) (goal : State → Bool) (g : Grid) (wf : g.WF)
    (e : Pos) (hgoal : ∀ (o : Orient) (held : Obj), goal ⟨g, ⟨e, o, held⟩⟩ = true) (p : Pos)
    (c : ConnNoExit g e p) (o : Orient) (held : Obj) :
    Reaches (.moveAgent :: rest) (stopOf .reachExit) goal ⟨g, ⟨p, o, held⟩⟩ := by
  induction c with
  | refl => exact .here _ (hgoal o held)
  | step p q adj fr hq _ ih =>
    obtain ⟨dir, rfl⟩ := adj
    refine .step _ _ ⟨[], []⟩ _ _ (step_toward rest ⟨g, ⟨p, o, held⟩⟩ dir _ fr.1 fr.2 (pr.quiet _)) ?_ ih
    rcases hq with hqe | hne
    · exact Or.inl (hqe ▸ hgoal o held)
    · exact Or.inr (stop_reachExit_false _ _ (withPos _ _) wf fr.1 hne)

/-- a path to an exit, cut at the first exit it meets -/
theorem Conn.noExit {g : Grid} {p e : Pos} (c : Conn g p e) (he : (g.at e).isKind .exit = true)
    (hpe : p ≠ e ∨ g.contains p = true) :
    ∃ e', g.contains e' = true ∧ (g.at e').isKind .exit = true ∧ ConnNoExit g e' p := by
  induction c with
  | refl p => exact ⟨p, hpe.resolve_left (fun h => h rfl), he, .refl⟩
  | step p q r adj fr _ ih =>
    cases hx : (g.at q).isKind .exit
    · obtain ⟨e', h1, h2, c'⟩ := ih he (Or.inr fr.1)
      exact ⟨e', h1, h2, .step p q adj fr (Or.inr hx) c'⟩
    · exact ⟨q, fr.1, hx, .step p q adj fr (Or.inl rfl) .refl⟩

/-- an exit can be reached: the first one on the way to `e`, not necessarily `e` -/
theorem conn_reaches (rest : List TransAtom) (pr : PlainRest rest) (g : Grid) (wf : g.WF) (e : Pos)
    (he : (g.at e).isKind .exit = true) (p : Pos) (c : Conn g p e) (hpe : p ≠ e ∨ g.contains p = true)
    (o : Orient) (held : Obj) : Reaches (.moveAgent :: rest) (stopOf .reachExit) goalExit ⟨g, ⟨p, o, held⟩⟩ := by
  obtain ⟨e', h1, h2, c'⟩ := c.noExit he hpe
  exact path_reaches rest pr goalExit g wf e' (fun o' held' => goalExit_withPos (s := ⟨g, ⟨p, o', held'⟩⟩) h1 h2) p c' o held

end GV
