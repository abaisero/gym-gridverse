/-
  The base of the lemma layer: all grid access in the proofs goes through these.  A well-formed
  grid is the table of its cells (`eq_tab`), so it is known by its shape and `cell` (`ext_cells`);
  by position it is read with `at`, which pads with Hidden outside and inside agrees with Python's
  `grid[p]` (`pyGet_of_contains`).  The assignments `set`, `setP` and `swap` are characterised by
  what `cell` / `at` return afterwards.  At the end `withPos` and `withO`, the state with the agent
  moved or turned, in which the transitions and the plans are both stated.
-/
import GridVerse.Model.Grid
namespace GV

/-- which object a cell holds is read off its kind where the kind has one member -/
theorem isKind_floor (o : Obj) : o.isKind .floor = true ↔ o = .floor := by
  refine ⟨fun h => ?_, fun h => h ▸ rfl⟩
  cases o with
  | floor => rfl
  | _ => cases h

theorem isKind_obstacle (o : Obj) : o.isKind .obstacle = true ↔ o = .obstacle := by
  refine ⟨fun h => ?_, fun h => h ▸ rfl⟩
  cases o with
  | obstacle => rfl
  | _ => cases h

theorem isKind_noneObj (o : Obj) : o.isKind .noneObj = true ↔ o = .noneObj := by
  refine ⟨fun h => ?_, fun h => h ▸ rfl⟩
  cases o with
  | noneObj => rfl
  | _ => cases h

theorem isKind_wall (o : Obj) : o.isKind .wall = true ↔ o = .wall := by
  refine ⟨fun h => ?_, fun h => h ▸ rfl⟩
  cases o with
  | wall => rfl
  | _ => cases h

theorem isKind_telepod_nonblocking (o : Obj) (h : o.isKind .telepod = true) :
    o.blocksMovement = false := by
  cases o with
  | telepod c => rfl
  | _ => cases h

theorem holdable_key (o : Obj) (h : o.holdable = true) : ∃ c, o = .key c := by
  cases o with
  | key c => exact ⟨c, rfl⟩
  | _ => cases h

/-- what one object contributes to `count p` -/
def ind (p : Obj → Bool) (o : Obj) : Nat := if p o then 1 else 0

@[simp] theorem Grid.tab_h (h w f) : (Grid.tab h w f).h = h := rfl
@[simp] theorem Grid.tab_w (h w f) : (Grid.tab h w f).w = w := rfl

theorem Grid.cell_tab (h w f i j) (hi : i < h) (hj : j < w) :
    (Grid.tab h w f).cell i j = f i j := by
  simp [Grid.tab, Grid.cell, hi, hj]

theorem Grid.tab_WF (h w f) : (Grid.tab h w f).WF := by
  refine ⟨by simp [Grid.tab], ?_⟩
  intro r hr
  simp only [Grid.tab, List.mem_map, List.mem_range] at hr
  obtain ⟨i, _, rfl⟩ := hr
  simp

theorem Grid.wfb_iff (g : Grid) : g.wfb = true ↔ g.WF := by
  simp [Grid.wfb, Grid.WF]

theorem Area.contains_iff (a : Area) (p : Pos) :
    a.contains p = true ↔ a.ymin ≤ p.y ∧ p.y ≤ a.ymax ∧ a.xmin ≤ p.x ∧ p.x ≤ a.xmax := by
  simp only [Area.contains, Bool.and_eq_true, decide_eq_true_eq, and_assoc]

theorem Grid.contains_iff (g : Grid) (p : Pos) :
    g.contains p = true ↔ 0 ≤ p.y ∧ p.y < g.h ∧ 0 ≤ p.x ∧ p.x < g.w := by
  simp [Grid.contains, and_assoc]

theorem Grid.area_contains (g : Grid) (p : Pos) : g.area.contains p = g.contains p := by
  rw [Bool.eq_iff_iff, Grid.contains_iff, Area.contains_iff]
  simp only [Grid.area]
  omega

theorem Grid.toNat_lt {g : Grid} {p : Pos} (h : g.contains p = true) : p.y.toNat < g.h ∧ p.x.toNat < g.w := by
  rw [Grid.contains_iff] at h
  omega

theorem Grid.contains_congr {g g' : Grid} (gh : g'.h = g.h) (gw : g'.w = g.w) (q : Pos) :
    g'.contains q = g.contains q := by
  simp only [Grid.contains, gh, gw]

theorem Grid.at_of_contains (g : Grid) (p : Pos) (h : g.contains p = true) :
    g.at p = g.cell p.y.toNat p.x.toNat := by
  simp [Grid.at, h]

theorem Grid.at_of_not_contains (g : Grid) (p : Pos) (h : g.contains p = false) :
    g.at p = .hidden := by
  simp [Grid.at, h]

/-- inside a well-formed grid Python's `grid[p]` is the padded lookup and never raises -/
theorem Grid.pyGet_of_contains (g : Grid) (hw : g.WF) (p : Pos) (h : g.contains p = true) :
    g.pyGet p = .ok (g.at p) := by
  obtain ⟨hl, hr⟩ := hw
  rw [Grid.at_of_contains g p h]
  have hy : p.y.toNat < g.cells.length := hl ▸ (Grid.toNat_lt h).1
  obtain ⟨h1, -, h3, -⟩ := (Grid.contains_iff g p).mp h
  have e1 : pyIdx g.cells p.y = some (g.cells[p.y.toNat]) := by
    simp [pyIdx, h1, hy]
  have hrow := hr _ (List.getElem_mem hy)
  have hx : p.x.toNat < (g.cells[p.y.toNat]).length := hrow ▸ (Grid.toNat_lt h).2
  have e2 : pyIdx (g.cells[p.y.toNat]) p.x = some ((g.cells[p.y.toNat])[p.x.toNat]) := by
    simp [pyIdx, h3, hx]
  simp only [Grid.pyGet, e1, e2, Grid.cell]
  simp [hy, hx]

@[simp] theorem Grid.set_h (g : Grid) (y x o) : (g.set y x o).h = g.h := rfl
@[simp] theorem Grid.set_w (g : Grid) (y x o) : (g.set y x o).w = g.w := rfl
@[simp] theorem Grid.setP_h (g : Grid) (p o) : (g.setP p o).h = g.h := rfl
@[simp] theorem Grid.setP_w (g : Grid) (p o) : (g.setP p o).w = g.w := rfl
@[simp] theorem Grid.contains_set (g : Grid) (y x o) (p : Pos) :
    (g.set y x o).contains p = g.contains p := rfl
@[simp] theorem Grid.contains_setP (g : Grid) (q o) (p : Pos) :
    (g.setP q o).contains p = g.contains p := rfl

theorem Grid.cell_set (g : Grid) (y x i j : Nat) (o : Obj) :
    (g.set y x o).cell i j =
      if i = y ∧ j = x ∧ y < g.cells.length ∧ x < (g.cells[y]?.getD []).length then o
      else g.cell i j := by
  unfold Grid.set Grid.cell
  simp only [List.getElem?_modify]
  by_cases hiy : y = i
  · subst hiy
    cases hrow : g.cells[y]? with
    | none => simp
    | some row =>
      have hlt : y < g.cells.length := (List.getElem?_eq_some_iff.mp hrow).1
      by_cases hjx : x = j
      · subst hjx
        by_cases hx : x < row.length <;> simp [hlt, hx]
      · simp [hlt, hjx, Ne.symm hjx]
  · simp [hiy, Ne.symm hiy]

theorem Grid.set_WF (g : Grid) (hg : g.WF) (y x o) : (g.set y x o).WF := by
  obtain ⟨hl, hr⟩ := hg
  refine ⟨by simp [Grid.set, hl], fun r hr' => ?_⟩
  obtain ⟨k, hk⟩ := List.mem_iff_getElem?.mp hr'
  simp only [Grid.set, List.getElem?_modify] at hk
  -- row `k` of the result is row `k` of `g`, with one cell assigned if `k = y`
  cases h : g.cells[k]? with
  | none => simp [h] at hk
  | some row =>
    have hrow := hr _ (List.mem_of_getElem? h)
    rw [h] at hk
    cases hk
    split <;> simp [hrow, Grid.set]

theorem Grid.setP_WF (g : Grid) (hg : g.WF) (p o) : (g.setP p o).WF := Grid.set_WF g hg _ _ _

theorem Grid.cell_set_WF (g : Grid) (hg : g.WF) (y x i j : Nat) (o : Obj) (hy : y < g.h) (hx : x < g.w) :
    (g.set y x o).cell i j = if i = y ∧ j = x then o else g.cell i j := by
  rw [Grid.cell_set]
  obtain ⟨hl, hr⟩ := hg
  have h1 : y < g.cells.length := by omega
  have h2 : x < (g.cells[y]).length := by
    rw [hr _ (List.getElem_mem h1)]; exact hx
  simp [h1, h2]

theorem Pos.ext_iff' (p q : Pos) : p = q ↔ p.y = q.y ∧ p.x = q.x := by
  cases p; cases q; simp

theorem Grid.eq_of_toNat {g : Grid} {p q : Pos} (hp : g.contains p = true) (hq : g.contains q = true)
    (hy : p.y.toNat = q.y.toNat) (hx : p.x.toNat = q.x.toNat) : p = q := by
  rw [Grid.contains_iff] at hp hq
  rw [Pos.ext_iff']
  omega

/-- `grid[p] = o` seen through the padded lookup.  Only for `p` inside: `setP` clamps a negative
coordinate to 0 and would write another cell. -/
theorem Grid.at_setP (g : Grid) (hg : g.WF) (p : Pos) (o : Obj) (hp : g.contains p = true) (q : Pos) :
    (g.setP p o).at q = if q = p then o else g.at q := by
  by_cases hq : g.contains q = true
  · rw [Grid.at_of_contains _ _ (show (g.setP p o).contains q = true from hq), Grid.at_of_contains _ _ hq]
    rw [Grid.setP, Grid.cell_set_WF g hg _ _ _ _ _ (Grid.toNat_lt hp).1 (Grid.toNat_lt hp).2]
    have : (q.y.toNat = p.y.toNat ∧ q.x.toNat = p.x.toNat) ↔ q = p :=
      ⟨fun ⟨hy, hx⟩ => Grid.eq_of_toNat hq hp hy hx, fun h => h ▸ ⟨rfl, rfl⟩⟩
    simp only [this]
  · have hq' : g.contains q = false := by simpa using hq
    rw [Grid.at_of_not_contains _ _ (show (g.setP p o).contains q = false from hq'),
      Grid.at_of_not_contains _ _ hq', if_neg]
    rintro rfl
    exact hq hp

theorem Grid.swap_WF (g : Grid) (hg : g.WF) (p q) : (g.swap p q).WF := by
  unfold Grid.swap
  exact Grid.setP_WF _ (Grid.setP_WF _ hg _ _) _ _

@[simp] theorem Grid.contains_swap (g : Grid) (p q r : Pos) :
    (g.swap p q).contains r = g.contains r := rfl
@[simp] theorem Grid.swap_h (g : Grid) (p q) : (g.swap p q).h = g.h := rfl
@[simp] theorem Grid.swap_w (g : Grid) (p q) : (g.swap p q).w = g.w := rfl

theorem Grid.at_swap (g : Grid) (hg : g.WF) (p q : Pos) (hp : g.contains p = true)
    (hq : g.contains q = true) (r : Pos) :
    (g.swap p q).at r = if r = q then g.at p else if r = p then g.at q else g.at r := by
  unfold Grid.swap
  simp only []
  rw [Grid.at_setP _ (Grid.setP_WF _ hg _ _) q _ hq]
  rw [Grid.at_setP _ hg p _ hp]

theorem Grid.tab_congr (h w : Nat) (f f' : Nat → Nat → Obj)
    (hf : ∀ i j, i < h → j < w → f i j = f' i j) : Grid.tab h w f = Grid.tab h w f' := by
  unfold Grid.tab
  congr 1
  apply List.map_congr_left
  intro i hi
  apply List.map_congr_left
  intro j hj
  exact hf i j (List.mem_range.mp hi) (List.mem_range.mp hj)

theorem Grid.eq_tab (g : Grid) (hg : g.WF) : g = Grid.tab g.h g.w g.cell := by
  obtain ⟨hl, hr⟩ := hg
  obtain ⟨h, w, cells⟩ := g
  simp only [Grid.tab, Grid.mk.injEq, true_and]
  simp only at hl hr
  apply List.ext_getElem
  · simp [hl]
  · intro i h1 h2
    simp only [List.getElem_map, List.getElem_range]
    have hrow := hr _ (List.getElem_mem h1)
    apply List.ext_getElem
    · simp [hrow]
    · intro j h3 h4
      simp [Grid.cell, h1, h3]

theorem Grid.ext_cells (g g' : Grid) (hg : g.WF) (hg' : g'.WF) (hh : g.h = g'.h) (hw : g.w = g'.w)
    (hc : ∀ i j, i < g.h → j < g.w → g.cell i j = g'.cell i j) : g = g' := by
  rw [Grid.eq_tab g hg, Grid.eq_tab g' hg', ← hh, ← hw]
  exact Grid.tab_congr _ _ _ _ hc

theorem Grid.contains_natCast (g : Grid) {i j : Nat} (hi : i < g.h) (hj : j < g.w) :
    g.contains ⟨(i : Int), (j : Int)⟩ = true :=
  (Grid.contains_iff g _).mpr ⟨Int.natCast_nonneg i, Int.ofNat_lt.mpr hi, Int.natCast_nonneg j, Int.ofNat_lt.mpr hj⟩

theorem Grid.exists_natCast {g : Grid} {p : Pos} (h : g.contains p = true) :
    ∃ i j, i < g.h ∧ j < g.w ∧ p = ⟨(i : Int), (j : Int)⟩ := by
  refine ⟨p.y.toNat, p.x.toNat, (Grid.toNat_lt h).1, (Grid.toNat_lt h).2, ?_⟩
  rw [Grid.contains_iff] at h
  rw [Pos.ext_iff']
  simp only
  omega

theorem Grid.at_natCast (g : Grid) (i j : Nat) (hi : i < g.h) (hj : j < g.w) :
    g.at ⟨(i : Int), (j : Int)⟩ = g.cell i j :=
  Grid.at_of_contains g _ (g.contains_natCast hi hj)

theorem Grid.cell_of_at {g : Grid} {P : Obj → Prop} (h : ∀ q, g.contains q = true → P (g.at q)) (i j : Nat)
    (hi : i < g.h) (hj : j < g.w) : P (g.cell i j) :=
  g.at_natCast i j hi hj ▸ h _ (g.contains_natCast hi hj)

theorem Grid.at_tab (h w : Nat) (f : Nat → Nat → Obj) (q : Pos) :
    (Grid.tab h w f).at q =
      if (0 ≤ q.y ∧ q.y < h ∧ 0 ≤ q.x ∧ q.x < w) then f q.y.toNat q.x.toNat else .hidden := by
  unfold Grid.at
  by_cases hc : (Grid.tab h w f).contains q = true
  · have hc' := (Grid.contains_iff _ _).mp hc
    simp only [Grid.tab_h, Grid.tab_w] at hc'
    rw [if_pos hc, if_pos hc', Grid.cell_tab h w f _ _ (Grid.toNat_lt hc).1 (Grid.toNat_lt hc).2]
  · have hc' := mt (Grid.contains_iff _ _).mpr hc
    simp only [Grid.tab_h, Grid.tab_w] at hc'
    rw [if_neg hc, if_neg hc']

def withPos (s : State) (c : Pos) : State := { s with agent := { s.agent with pos := c } }

@[simp] theorem withPos_grid (s : State) (c : Pos) : (withPos s c).grid = s.grid := rfl
@[simp] theorem withPos_pos (s : State) (c : Pos) : (withPos s c).agent.pos = c := rfl
@[simp] theorem withPos_o (s : State) (c : Pos) : (withPos s c).agent.o = s.agent.o := rfl
@[simp] theorem withPos_held (s : State) (c : Pos) : (withPos s c).agent.held = s.agent.held := rfl
@[simp] theorem withPos_withPos (s : State) (c c' : Pos) : withPos (withPos s c) c' = withPos s c' := rfl
theorem withPos_self (s : State) : withPos s s.agent.pos = s := rfl

def withO (s : State) (o : Orient) : State := { s with agent := { s.agent with o := o } }

@[simp] theorem withO_grid (s : State) (o : Orient) : (withO s o).grid = s.grid := rfl
@[simp] theorem withO_pos (s : State) (o : Orient) : (withO s o).agent.pos = s.agent.pos := rfl
@[simp] theorem withO_o (s : State) (o : Orient) : (withO s o).agent.o = o := rfl
@[simp] theorem withO_held (s : State) (o : Orient) : (withO s o).agent.held = s.agent.held := rfl

end GV
