/-
  Lemmas for the numeric representations (Model/Repr.lean): the context's maxima bound the three
  indices, `indexOf?` on duplicate-free lists, the sorted kind and colour lists, the layout of the
  status slots in the compact encoding, `mapE`.
-/
import GridVerse.Model.Repr
namespace GV

/-- the kind and the colour of `o` are declared in the context: what the encodings need of the
objects of a member of the space -/
def InCtx (c : ReprCtx) (o : Obj) : Prop := o.kind ∈ c.kinds ∧ o.color ∈ c.colors

def Grid.InCtx (g : Grid) (c : ReprCtx) : Prop := ∀ i j, i < g.h → j < g.w → GV.InCtx c (g.cell i j)

theorem le_maxOf {l : List Nat} {x : Nat} (h : x ∈ l) : x ≤ maxOf l := by
  rw [maxOf, List.foldl_max]
  exact Nat.le_trans (List.le_max?_getD_of_mem h) (Nat.le_max_right ..)

theorem stateIndex_lt_numStates (o : Obj) : o.stateIndex < o.kind.numStates := by
  cases o <;> simp [Obj.stateIndex, Obj.kind, Kind.numStates]
  rename_i s c; cases s <;> simp [DoorStatus.value]

theorem ReprCtx.bounds (c : ReprCtx) (o : Obj) (hk : o.kind ∈ c.kinds) (hc : o.color ∈ c.colors) :
    o.kind.typeIndex ≤ c.maxType ∧ o.stateIndex < c.maxState ∧ o.color.value ≤ c.maxColor := by
  refine ⟨le_maxOf (List.mem_map_of_mem hk), ?_, le_maxOf (List.mem_map_of_mem hc)⟩
  exact Nat.lt_of_lt_of_le (stateIndex_lt_numStates o) (le_maxOf (List.mem_map_of_mem hk))

theorem indexOf?_some {α} [BEq α] [LawfulBEq α] {l : List α} {a : α} {i : Nat} (h : indexOf? l a = some i) :
    l[i]? = some a := by
  simp only [indexOf?] at h
  split at h
  · rename_i hlt
    obtain rfl := Option.some.inj h
    rw [List.getElem?_eq_getElem hlt, beq_iff_eq.mp (List.findIdx_getElem (w := hlt))]
  · cases h

theorem indexOf?_mem {α} [BEq α] [LawfulBEq α] {l : List α} {a : α} (h : a ∈ l) :
    ∃ i, indexOf? l a = some i ∧ i < l.length := by
  have hlt : l.findIdx (· == a) < l.length := List.findIdx_lt_length_of_exists ⟨a, h, by simp⟩
  exact ⟨_, by simp only [indexOf?, hlt, if_true], hlt⟩

theorem indexOf?_inj {α} [BEq α] [LawfulBEq α] {l : List α} {a b : α} {i : Nat}
    (ha : indexOf? l a = some i) (hb : indexOf? l b = some i) : a = b :=
  Option.some.inj ((indexOf?_some ha).symm.trans (indexOf?_some hb))

theorem indexOf?_getElem {α} [BEq α] [LawfulBEq α] {l : List α} (hnd : l.Nodup) {v : Nat} (hv : v < l.length) :
    indexOf? l l[v] = some v := by
  obtain ⟨i, hi, hlt⟩ := indexOf?_mem (List.getElem_mem hv)
  have hget := indexOf?_some hi
  rw [List.getElem?_eq_getElem hlt, Option.some.injEq] at hget
  rw [hi, (List.getElem_inj hnd).mp hget]

/-- `Kind.all`, `Color.all` and `Orient.all` list the constructors in index order -/
theorem Kind.all_typeIndex (k : Kind) : Kind.all[k.typeIndex]? = some k := by cases k <;> rfl
theorem Color.all_value (c : Color) : Color.all[c.value]? = some c := by cases c <;> rfl
theorem Orient.all_value (o : Orient) : Orient.all[o.value]? = some o := by cases o <;> rfl

theorem inj_of_getElem? {α} {all : List α} {ix : α → Nat} (h : ∀ a, all[ix a]? = some a) {a b : α}
    (e : ix a = ix b) : a = b :=
  Option.some.inj (by rw [← h a, e, h b])

/-- sorting a set by filtering a fixed enumeration forgets the order the set was listed in -/
theorem filter_contains_congr {α} [BEq α] [LawfulBEq α] (all : List α) {l l' : List α} (h : ∀ k, k ∈ l ↔ k ∈ l') :
    (all.filter fun k => l.contains k) = all.filter fun k => l'.contains k :=
  List.filter_congr fun k _ => by rw [Bool.eq_iff_iff]; simp [h k]

theorem mem_filter_contains {α} [BEq α] [LawfulBEq α] {all l : List α} {a : α} (h : a ∈ all) :
    a ∈ all.filter (fun k => l.contains k) ↔ a ∈ l := by
  simp only [List.mem_filter, h, true_and, List.contains_eq_mem, decide_eq_true_eq]

theorem mem_sortedKinds {c : ReprCtx} {k : Kind} : k ∈ c.sortedKinds ↔ k ∈ c.kinds :=
  mem_filter_contains (List.mem_of_getElem? (Kind.all_typeIndex k))

theorem mem_sortedColors {c : ReprCtx} {k : Color} : k ∈ c.sortedColors ↔ k ∈ c.colors :=
  mem_filter_contains (List.mem_of_getElem? (Color.all_value k))

/-- the status code of a kind of the context: the kinds come first, then the slots kind by kind -/
theorem ReprCtx.compactState_eq (c : ReprCtx) {k : Kind} {j : Nat} (hk : k ∈ c.kinds) (hj : j < k.numStates) :
    c.compactState k j = ((c.sortedKinds.length + c.statesBefore k + j : Nat) : Int) := by
  have : c.sortedKinds.contains k = true := by simpa using mem_sortedKinds.mpr hk
  simp only [ReprCtx.compactState, this, hj, decide_true, Bool.and_self, if_true]

theorem nodup_sortedKinds (c : ReprCtx) : c.sortedKinds.Nodup := List.Pairwise.filter _ (by decide)
theorem nodup_sortedColors (c : ReprCtx) : c.sortedColors.Nodup := List.Pairwise.filter _ (by decide)

/-- the status slots of the compact encoding: those of `k` start after the slots of the kinds sorted
before it, and end within the total … -/
theorem sum_takeWhile_add_le {l : List Kind} {k : Kind} (h : k ∈ l) :
    ((l.takeWhile fun x => x != k).map Kind.numStates).sum + k.numStates ≤ (l.map Kind.numStates).sum := by
  induction l with
  | nil => cases h
  | cons x xs ih =>
    by_cases hx : x = k
    · subst hx; simp [List.takeWhile]
    · have := ih ((List.mem_cons.mp h).resolve_left (Ne.symm hx))
      have hne : (x != k) = true := by simp [hx]
      simp only [List.takeWhile, hne, List.map_cons, List.sum_cons]
      omega

/-- … and every value below the total is a slot of one of the kinds -/
theorem sum_slots {l : List Kind} (hnd : l.Nodup) {v : Nat} (hv : v < (l.map Kind.numStates).sum) :
    ∃ k ∈ l, ∃ j, j < k.numStates ∧ ((l.takeWhile fun x => x != k).map Kind.numStates).sum + j = v := by
  induction l generalizing v with
  | nil => simp at hv
  | cons x xs ih =>
    simp only [List.map_cons, List.sum_cons] at hv
    by_cases hx : v < x.numStates
    · exact ⟨x, by simp, v, hx, by simp [List.takeWhile]⟩
    · obtain ⟨k, hk, j, hj, he⟩ := ih (List.nodup_cons.mp hnd).2 (v := v - x.numStates) (by omega)
      refine ⟨k, by simp [hk], j, hj, ?_⟩
      have hne : x ≠ k := fun e => (List.nodup_cons.mp hnd).1 (e ▸ hk)
      have : (x != k) = true := by simp [hne]
      simp only [List.takeWhile, this, List.map_cons, List.sum_cons]
      omega

theorem mapE_ok {α β} (f : α → Except PyErr β) (Q : β → Prop) (l : List α)
    (h : ∀ a ∈ l, ∃ b, f a = .ok b ∧ Q b) :
    ∃ bs, mapE f l = .ok bs ∧ bs.length = l.length ∧ ∀ b ∈ bs, Q b := by
  induction l with
  | nil => exact ⟨[], rfl, rfl, fun _ hb => nomatch hb⟩
  | cons a as ih =>
    obtain ⟨b, hb, hq⟩ := h a (List.mem_cons_self ..)
    obtain ⟨bs, hbs, hl, hQ⟩ := ih fun x hx => h x (List.mem_cons_of_mem _ hx)
    exact ⟨b :: bs, by simp only [mapE, hb, hbs], by simp only [List.length_cons, hl],
      List.forall_mem_cons.mpr ⟨hq, hQ⟩⟩

theorem mapE_ok_iff {α β : Type} (f : α → Except PyErr β) (l : List α) (bs : List β) :
    mapE f l = .ok bs ↔ bs.length = l.length ∧ ∀ i (h1 : i < l.length) (h2 : i < bs.length), f l[i] = .ok bs[i] := by
  induction l generalizing bs with
  | nil =>
    simp only [mapE, Except.ok.injEq, List.length_nil, List.length_eq_zero_iff]
    exact ⟨fun h => ⟨h.symm, fun i h1 => nomatch h1⟩, fun h => h.1.symm⟩
  | cons a as ih =>
    simp only [mapE]
    constructor
    · intro h
      split at h
      · cases h
      · rename_i b hfa
        split at h
        · cases h
        · rename_i bs' hr
          obtain rfl := Except.ok.inj h
          obtain ⟨hl, hi⟩ := (ih bs').mp hr
          refine ⟨congrArg (· + 1) hl, fun i h1 h2 => ?_⟩
          cases i with
          | zero => exact hfa
          | succ j => exact hi j (Nat.lt_of_succ_lt_succ h1) (Nat.lt_of_succ_lt_succ h2)
    · rintro ⟨hl, hi⟩
      cases bs with
      | nil => cases hl
      | cons b bs' =>
        have h0 : f a = .ok b := hi 0 (Nat.zero_lt_succ _) (Nat.zero_lt_succ _)
        have hrest := (ih bs').mpr
          ⟨Nat.succ.inj hl, fun i h1 h2 => hi (i + 1) (Nat.succ_lt_succ h1) (Nat.succ_lt_succ h2)⟩
        rw [h0, hrest]
theorem mapE_eq_mapM {α β : Type} (f : α → Except PyErr β) (l : List α) : mapE f l = l.mapM f := by
  induction l with
  | nil => rfl
  | cons a as ih =>
    rw [List.mapM_cons, mapE, ih]
    cases f a with
    | error e => rfl
    | ok b => cases List.mapM f as <;> rfl

theorem mapE_congr {α β : Type} {f g : α → Except PyErr β} {l : List α} (h : ∀ a ∈ l, f a = g a) :
    mapE f l = mapE g l := by
  induction l with
  | nil => rfl
  | cons a as ih =>
    simp only [mapE, h a (List.mem_cons_self ..), ih (fun x hx => h x (List.mem_cons_of_mem _ hx))]

end GV
