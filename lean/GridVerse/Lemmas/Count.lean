/-
  Counting objects under assignment and swap: `count` is the number of positions found
  (`count_eq_length_find`), and an assignment changes the cell at one of them.
-/
import GridVerse.Lemmas.Positions
namespace GV

theorem length_filter_update {α} [DecidableEq α] {l : List α} (hnd : l.Nodup) {k : α} (hk : k ∈ l)
    (f g : α → Bool) (h : ∀ a ∈ l, a ≠ k → f a = g a) :
    (l.filter f).length + (if g k then 1 else 0) = (l.filter g).length + (if f k then 1 else 0) := by
  have hp := List.perm_cons_erase hk
  have hfg : (l.erase k).countP f = (l.erase k).countP g :=
    List.countP_congr fun a ha => by
      obtain ⟨hne, hm⟩ := hnd.mem_erase_iff.mp ha
      rw [h a hm hne]
  rw [← List.countP_eq_length_filter, ← List.countP_eq_length_filter, hp.countP_eq, hp.countP_eq,
    List.countP_cons, List.countP_cons, hfg]
  omega

theorem Grid.count_setP (g : Grid) (hg : g.WF) (q : Pos) (hq : g.contains q = true) (o : Obj)
    (p : Obj → Bool) :
    (g.setP q o).count p + ind p (g.at q) = g.count p + ind p o := by
  have hat := Grid.at_setP g hg q o hq
  have := length_filter_update (Grid.positions_nodup g) ((Grid.mem_positions g q).mpr hq)
    (p ∘ (g.setP q o).at) (p ∘ g.at) (fun r _ hne => by rw [Function.comp_apply, hat, if_neg hne]; rfl)
  simp only [Function.comp_apply, hat, if_true] at this
  rw [Grid.count_eq_length_find _ (Grid.setP_WF g hg q o), Grid.count_eq_length_find g hg]
  -- `find` (over the same positions) and `ind` unfold to this
  exact this

theorem Grid.count_set (g : Grid) (hg : g.WF) (y x : Nat) (hy : y < g.h) (hx : x < g.w) (o : Obj)
    (p : Obj → Bool) :
    (g.set y x o).count p + ind p (g.cell y x) = g.count p + ind p o := by
  rw [← Grid.at_natCast g y x hy hx]
  exact Grid.count_setP g hg ⟨y, x⟩ (g.contains_natCast hy hx) o p

theorem Grid.count_swap (g : Grid) (hg : g.WF) (a b : Pos) (ha : g.contains a = true)
    (hb : g.contains b = true) (p : Obj → Bool) : (g.swap a b).count p = g.count p := by
  unfold Grid.swap
  simp only []
  have h1 := Grid.count_setP g hg a ha (g.at b) p
  have h2 := Grid.count_setP (g.setP a (g.at b)) (Grid.setP_WF g hg _ _) b hb (g.at a) p
  rw [Grid.at_setP g hg a _ ha] at h2
  by_cases hba : b = a
  · subst hba; simp only [if_true] at h2; omega
  · simp only [hba, if_false] at h2; omega

end GV
