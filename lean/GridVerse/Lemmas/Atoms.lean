/-
  The primitive transitions: an equation for each, the relation `Step` that collects what a
  successful run of each can do to a state (`run_step`), and the lift of an invariant of the atoms
  to chains and histories (`runAtoms_inv`).  The properties C01, C08, C09, C10 argue about `Step`.
-/
import GridVerse.Lemmas.Obstacles
namespace GV

theorem moveAgent_eq (s : State) (a : Action) :
    moveAgent s a =
      if a.isMove = true ∧ s.grid.contains (nextPos s.agent.pos s.agent.o a) = true ∧
          (s.grid.at (nextPos s.agent.pos s.agent.o a)).blocksMovement = false
      then withPos s (nextPos s.agent.pos s.agent.o a) else s := by
  unfold moveAgent
  by_cases hm : a.isMove = true
  · by_cases hc : s.grid.contains (nextPos s.agent.pos s.agent.o a) = true
    · cases hb : (s.grid.at (nextPos s.agent.pos s.agent.o a)).blocksMovement <;> simp [hm, hc, hb, withPos]
    · simp [hm, hc]
  · simp [hm]

/-- the condition under which `pickndrop` writes the front cell -/
def pndFires (s : State) (a : Action) : Prop :=
  a = .pickNDrop ∧ s.grid.contains s.agent.front = true ∧
    ((s.grid.at s.agent.front).isKind .floor = true ∨ (s.grid.at s.agent.front).holdable = true)
instance (s : State) (a : Action) : Decidable (pndFires s a) := by unfold pndFires; exact inferInstance

/-- what `pickndrop` puts on the front cell -/
def pndPut (s : State) : Obj := if s.agent.held.isKind .noneObj then .floor else s.agent.held
/-- what ends up in the hand -/
def pndHeld (s : State) : Obj :=
  if (s.grid.at s.agent.front).holdable then s.grid.at s.agent.front else .noneObj

theorem pickndrop_eq (s : State) (a : Action) :
    pickndrop s a =
      if pndFires s a then
        { grid := s.grid.setP s.agent.front (pndPut s), agent := { s.agent with held := pndHeld s } }
      else s := by
  unfold pickndrop pndFires pndPut pndHeld
  simp only [Bool.or_eq_true]
  by_cases h1 : a = .pickNDrop
  · by_cases h2 : s.grid.contains s.agent.front = true
    · by_cases h3 : (s.grid.at s.agent.front).isKind .floor = true ∨ (s.grid.at s.agent.front).holdable = true
      · simp [h1, h2, h3]
      · simp [h1, h2, h3]
    · simp [h1, h2]
  · simp [h1]

/-- the condition under which `actuate_door` opens the faced door, of status `st` and colour `c` -/
structure DoorFires (s : State) (a : Action) (st : DoorStatus) (c : Color) : Prop where
  act : a = .actuate
  inGrid : s.grid.contains s.agent.front = true
  door : s.grid.at s.agent.front = .door st c
  opens : st = .closed ∨ (st = .locked ∧ s.agent.held = .key c)

theorem actuateDoor_fires {s : State} {a : Action} {st : DoorStatus} {c : Color} (h : DoorFires s a st c) :
    actuateDoor s a = { s with grid := s.grid.setP s.agent.front (.door .open c) } := by
  obtain ⟨rfl, hc, hd, ho⟩ := h
  unfold actuateDoor
  rcases ho with rfl | ⟨rfl, hk⟩
  · simp [hc, hd]
  · simp [hc, hd, hk]

theorem actuateDoor_cases (s : State) (a : Action) :
    actuateDoor s a = s ∨ ∃ st c, DoorFires s a st c := by
  unfold actuateDoor
  by_cases h1 : a = .actuate
  · subst h1
    by_cases h2 : s.grid.contains s.agent.front = true
    · simp only [h2, if_true]
      cases hob : s.grid.at s.agent.front with
      | door st c =>
        cases st with
        | «open» => exact Or.inl rfl
        | closed => exact Or.inr ⟨_, c, rfl, h2, hob, Or.inl rfl⟩
        | locked =>
          cases hh : s.agent.held with
          | key kc =>
            by_cases hk : kc = c
            · exact Or.inr ⟨_, c, rfl, h2, hob, Or.inr ⟨rfl, hk ▸ hh⟩⟩
            · exact Or.inl (by simp [hk])
          | _ => exact Or.inl rfl
      | _ => exact Or.inl rfl
    · exact Or.inl (by simp [h2])
  · exact Or.inl (by simp [h1])

/-- the condition under which `actuate_box` opens the faced box -/
def boxFires (s : State) (a : Action) : Prop :=
  a = .actuate ∧ s.grid.contains s.agent.front = true ∧ ∃ c, s.grid.at s.agent.front = .box c

theorem actuateBox_fires {s : State} {b : Obj} (hc : s.grid.contains s.agent.front = true)
    (hb : s.grid.at s.agent.front = .box b) :
    actuateBox s .actuate = { s with grid := s.grid.setP s.agent.front b } := by
  simp [actuateBox, hc, hb]

theorem actuateBox_idle {s : State} {a : Action} (h : ¬ boxFires s a) : actuateBox s a = s := by
  unfold actuateBox
  by_cases h1 : a = .actuate
  · by_cases h2 : s.grid.contains s.agent.front = true
    · simp only [h1, h2, if_true]
      cases hob : s.grid.at s.agent.front with
      | box c => exact absurd ⟨h1, h2, c, hob⟩ h
      | _ => rfl
    · simp [h1, h2]
  · simp [h1]

theorem mem_teleportTargets {s : State} {c : Color} {q : Pos} :
    q ∈ teleportTargets s c ↔ s.grid.contains q = true ∧ q ≠ s.agent.pos ∧
      (s.grid.at q).isKind .telepod = true ∧ (s.grid.at q).color = c := by
  simp [teleportTargets, Grid.mem_positions, and_assoc]

/-- `teleport` after its read of the agent's cell (Python-indexed, so it may raise) has returned `t` -/
theorem teleport_of_get {s : State} {t : Obj} (ht : s.grid.pyGet s.agent.pos = .ok t) (d : DrawSt) :
    teleport s d =
      if t.isKind .telepod = true ∧ teleportTargets s t.color ≠ [] then
        match drawChoice (teleportTargets s t.color).length d with
        | (none, d) => .ok (s, d)
        | (some i, d) =>
          .ok (withPos s ((teleportTargets s t.color).getD i s.agent.pos), d)
      else .ok (s, d) := by
  simp only [teleport, ht]
  by_cases hk : t.isKind .telepod = true
  · by_cases hp : teleportTargets s t.color = []
    · simp [hk, hp]
    · simp only [hk, hp, List.isEmpty_iff, if_true, if_false, ne_eq, not_false_eq_true, and_self]
      rfl
  · simp [hk]

theorem teleport_paired {s : State} {t : Obj} (ht : s.grid.pyGet s.agent.pos = .ok t)
    (hk : t.isKind .telepod = true) (hp : teleportTargets s t.color ≠ []) (d : DrawSt) :
    ∃ q d', q ∈ teleportTargets s t.color ∧
      teleport s d = .ok (withPos s q, d') := by
  obtain ⟨i, d', hdc, hmem⟩ := drawChoice_mem _ s.agent.pos (List.length_pos_iff.mpr hp) d
  exact ⟨_, d', hmem, by rw [teleport_of_get ht, if_pos ⟨hk, hp⟩, hdc]⟩

theorem teleport_ok {s s' : State} {d d' : DrawSt} (h : teleport s d = .ok (s', d')) :
    s' = s ∨ ∃ t q, s.grid.pyGet s.agent.pos = .ok t ∧ t.isKind .telepod = true ∧
      q ∈ teleportTargets s t.color ∧ s' = withPos s q := by
  cases ht : s.grid.pyGet s.agent.pos with
  | error e => simp only [teleport, ht] at h; cases h
  | ok t =>
    by_cases hp : t.isKind .telepod = true ∧ teleportTargets s t.color ≠ []
    · obtain ⟨q, d1, hq, he⟩ := teleport_paired ht hp.1 hp.2 d
      cases he.symm.trans h
      exact Or.inr ⟨t, q, rfl, hp.1, hq, rfl⟩
    · rw [teleport_of_get ht, if_neg hp] at h
      cases h
      exact Or.inl rfl

/-- What a successful run of a primitive transition can do to a state, whatever the draws: nothing,
or the one change that transition is there for. -/
inductive Step : TransAtom → State → Action → State → Prop
  | same (f s a) : Step f s a s
  | move {s : State} {a} : a.isMove = true → s.grid.contains (nextPos s.agent.pos s.agent.o a) = true →
      (s.grid.at (nextPos s.agent.pos s.agent.o a)).blocksMovement = false →
      Step .moveAgent s a (withPos s (nextPos s.agent.pos s.agent.o a))
  | turn {s : State} {a t} : a.turnOrient = some t →
      Step .turnAgent s a (withO s (s.agent.o.mul t))
  | pnd {s : State} {a} : pndFires s a →
      Step .pickndrop s a ⟨s.grid.setP s.agent.front (pndPut s), { s.agent with held := pndHeld s }⟩
  | sweep {s : State} {a g'} : Sweep (s.grid.find fun o => o.isKind .obstacle) s.grid g' →
      Step .moveObstacles s a { s with grid := g' }
  | door {s : State} {a st c} : DoorFires s a st c →
      Step .actuateDoor s a { s with grid := s.grid.setP s.agent.front (.door .open c) }
  | box {s : State} {b} : s.grid.contains s.agent.front = true → s.grid.at s.agent.front = .box b →
      Step .actuateBox s .actuate { s with grid := s.grid.setP s.agent.front b }
  | tele {s : State} {a t q} : s.grid.pyGet s.agent.pos = .ok t → t.isKind .telepod = true →
      q ∈ teleportTargets s t.color → Step .teleport s a (withPos s q)

theorem run_step {f : TransAtom} {s s' : State} {a : Action} {d d' : DrawSt}
    (h : f.run s a d = .ok (s', d')) : Step f s a s' := by
  cases f <;> simp only [TransAtom.run, Except.ok.injEq, Prod.mk.injEq] at h
  case moveAgent =>
    obtain ⟨rfl, _⟩ := h
    rw [moveAgent_eq]
    split
    · rename_i hf; exact .move hf.1 hf.2.1 hf.2.2
    · exact .same ..
  case turnAgent =>
    obtain ⟨rfl, _⟩ := h
    unfold turnAgent
    cases ht : a.turnOrient
    · exact .same ..
    · exact .turn ht
  case pickndrop =>
    obtain ⟨rfl, _⟩ := h
    rw [pickndrop_eq]
    split
    · exact .pnd (by assumption)
    · exact .same ..
  case moveObstacles =>
    have : s' = (moveObstacles s d).1 := by rw [h]
    subst this
    rw [moveObstacles_eq]
    exact .sweep (obstaclesFold_sweep _ _ _)
  case actuateDoor =>
    obtain ⟨rfl, _⟩ := h
    rcases actuateDoor_cases s a with he | ⟨st, c, hf⟩
    · rw [he]; exact .same ..
    · rw [actuateDoor_fires hf]; exact .door hf
  case actuateBox =>
    obtain ⟨rfl, _⟩ := h
    by_cases hf : boxFires s a
    · obtain ⟨rfl, hc, b, hb⟩ := hf
      rw [actuateBox_fires hc hb]; exact .box hc hb
    · rw [actuateBox_idle hf]; exact .same ..
  case teleport =>
    rcases teleport_ok h with rfl | ⟨t, q, h1, h2, h3, rfl⟩
    · exact .same ..
    · exact .tele h1 h2 h3

theorem Step.frame {f s a s'} (h : Step f s a s') :
    (f ≠ .moveAgent → f ≠ .teleport → s'.agent.pos = s.agent.pos) ∧
    (f ≠ .turnAgent → s'.agent.o = s.agent.o) ∧
    (f ≠ .pickndrop → s'.agent.held = s.agent.held) ∧
    (f = .moveAgent ∨ f = .turnAgent ∨ f = .teleport → s'.grid = s.grid) := by
  cases h with
  | same => exact ⟨fun _ _ => rfl, fun _ => rfl, fun _ => rfl, fun _ => rfl⟩
  | move => exact ⟨fun h => absurd rfl h, fun _ => rfl, fun _ => rfl, fun _ => rfl⟩
  | tele => exact ⟨fun _ h => absurd rfl h, fun _ => rfl, fun _ => rfl, fun _ => rfl⟩
  | turn => exact ⟨fun _ _ => rfl, fun h => absurd rfl h, fun _ => rfl, fun _ => rfl⟩
  | pnd => exact ⟨fun _ _ => rfl, fun _ => rfl, fun h => absurd rfl h, fun h => by rcases h with h | h | h <;> cases h⟩
  | sweep | door | box => exact ⟨fun _ _ => rfl, fun _ => rfl, fun _ => rfl, fun h => by rcases h with h | h | h <;> cases h⟩

theorem Step.shape {f s a s'} (h : Step f s a s') (hw : s.grid.WF) :
    s'.grid.WF ∧ s'.grid.h = s.grid.h ∧ s'.grid.w = s.grid.w := by
  cases h with
  | sweep hs => exact ⟨(hs.inv_find hw).wf, (hs.inv_find hw).h, (hs.inv_find hw).w⟩
  | pnd | door | box => exact ⟨Grid.setP_WF _ hw _ _, rfl, rfl⟩
  | same | move | turn | tele => exact ⟨hw, rfl, rfl⟩

/-- What one primitive transition does to one cell: nothing, or an obstacle came or went, or the
cell is the (in-grid) faced one and was written by `pickndrop`, `actuate_door` or `actuate_box`. -/
theorem Step.cell {f s a s'} (h : Step f s a s') (hw : s.grid.WF) (q : Pos) :
    s'.grid.at q = s.grid.at q ∨
    (s.grid.at q = .floor ∧ s'.grid.at q = .obstacle) ∨ (s.grid.at q = .obstacle ∧ s'.grid.at q = .floor) ∨
    (q = s.agent.front ∧
      ((f = .pickndrop ∧ ((s.grid.at q).isKind .floor = true ∨ (s.grid.at q).holdable = true) ∧
          s'.grid.at q = pndPut s) ∨
       (f = .actuateDoor ∧ ∃ st c, DoorFires s a st c ∧ s'.grid.at q = .door .open c) ∨
       (f = .actuateBox ∧ a = .actuate ∧ s.grid.at q = .box (s'.grid.at q)))) := by
  have front : ∀ o, s.grid.contains s.agent.front = true →
      (s.grid.setP s.agent.front o).at q = s.grid.at q ∨
      (q = s.agent.front ∧ (s.grid.setP s.agent.front o).at q = o) := by
    intro o hc
    rw [Grid.at_setP _ hw _ _ hc]
    by_cases hq : q = s.agent.front
    · exact Or.inr ⟨hq, if_pos hq⟩
    · exact Or.inl (if_neg hq)
  cases h with
  | same | move | turn | tele => exact Or.inl rfl
  | sweep hs => exact ((hs.inv_find hw).cell q).imp id fun h => h.imp id Or.inl
  | pnd hf =>
    rcases front (pndPut s) hf.2.1 with h | ⟨rfl, h⟩
    · exact Or.inl h
    · exact Or.inr (Or.inr (Or.inr ⟨rfl, Or.inl ⟨rfl, hf.2.2, h⟩⟩))
  | @door _ _ st c hf =>
    rcases front (.door .open c) hf.inGrid with h | ⟨rfl, h⟩
    · exact Or.inl h
    · exact Or.inr (Or.inr (Or.inr ⟨rfl, Or.inr (Or.inl ⟨rfl, st, c, hf, h⟩)⟩))
  | @box _ b hc hb =>
    rcases front b hc with h | ⟨rfl, h⟩
    · exact Or.inl h
    · exact Or.inr (Or.inr (Or.inr ⟨rfl, Or.inr (Or.inr ⟨rfl, rfl, by rw [h]; exact hb⟩)⟩))

/-- no primitive transition raises when the agent stands inside a rectangular grid
(only `teleport` reads the grid with Python indexing) -/
theorem atom_total (f : TransAtom) (s : State) (a : Action) (d : DrawSt) (hw : s.grid.WF)
    (hc : s.grid.contains s.agent.pos = true) : ∃ s' d', f.run s a d = .ok (s', d') := by
  cases f
  case teleport =>
    have ht := Grid.pyGet_of_contains _ hw _ hc
    by_cases hp : (s.grid.at s.agent.pos).isKind .telepod = true ∧
        teleportTargets s (s.grid.at s.agent.pos).color ≠ []
    · obtain ⟨q, d', _, he⟩ := teleport_paired ht hp.1 hp.2 d
      exact ⟨_, d', he⟩
    · exact ⟨s, d, by rw [TransAtom.run, teleport_of_get ht, if_neg hp]⟩
  all_goals exact ⟨_, _, rfl⟩

/-- a history at the granularity of primitive transitions -/
def runAtoms : List (TransAtom × Action) → State → DrawSt → Except PyErr (State × DrawSt)
  | [], s, d => .ok (s, d)
  | (f, a) :: l, s, d =>
    match f.run s a d with
    | .error e => .error e
    | .ok (s', d') => runAtoms l s' d'

/-- a history: the same chain applied for a sequence of actions, draws threaded through -/
def runHistory (fs : List TransAtom) : List Action → State → DrawSt → Except PyErr (State × DrawSt)
  | [], s, d => .ok (s, d)
  | a :: as, s, d =>
    match runChain fs s a d with
    | .error e => .error e
    | .ok (s', d') => runHistory fs as s' d'

theorem runAtoms_cons_ok {f : TransAtom} {a : Action} {l : List (TransAtom × Action)} {s s' : State}
    {d d' : DrawSt} :
    runAtoms ((f, a) :: l) s d = .ok (s', d') ↔
      ∃ s1 d1, f.run s a d = .ok (s1, d1) ∧ runAtoms l s1 d1 = .ok (s', d') := by
  simp only [runAtoms]
  cases f.run s a d with
  | error e => exact ⟨nofun, fun ⟨_, _, h, _⟩ => nomatch h⟩
  | ok r => exact ⟨fun h => ⟨r.1, r.2, rfl, h⟩, fun ⟨_, _, h, h'⟩ => by cases h; exact h'⟩

theorem runAtoms_inv {P : State → Prop} : ∀ (l : List (TransAtom × Action))
    (_ : ∀ fa ∈ l, ∀ s s', P s → Step fa.1 s fa.2 s' → P s')
    (s s' : State) (d d' : DrawSt), P s → runAtoms l s d = .ok (s', d') → P s'
  | [], _, s, s', d, d', hP, h => by cases h; exact hP
  | (f, a) :: l, hstep, s, s', d, d', hP, h => by
    obtain ⟨s1, d1, h1, h2⟩ := runAtoms_cons_ok.mp h
    exact runAtoms_inv l (fun fa hfa => hstep fa (List.mem_cons_of_mem _ hfa)) s1 s' d1 d'
      (hstep (f, a) List.mem_cons_self s s1 hP (run_step h1)) h2

theorem runAtoms_append : ∀ (l1 l2 : List (TransAtom × Action)) (s : State) (d : DrawSt),
    runAtoms (l1 ++ l2) s d =
      match runAtoms l1 s d with
      | .error e => .error e
      | .ok (s', d') => runAtoms l2 s' d'
  | [], _, _, _ => rfl
  | (f, a) :: l1, l2, s, d => by
    simp only [List.cons_append, runAtoms]
    cases f.run s a d with
    | error e => rfl
    | ok r => exact runAtoms_append l1 l2 r.1 r.2

theorem runChain_eq_runAtoms (fs : List TransAtom) (a : Action) (s : State) (d : DrawSt) :
    runChain fs s a d = runAtoms (fs.map fun f => (f, a)) s d := by
  induction fs generalizing s d with
  | nil => rfl
  | cons f fs ih =>
    simp only [runChain, List.map_cons, runAtoms]
    cases f.run s a d with
    | error e => rfl
    | ok r => obtain ⟨s1, d1⟩ := r; exact ih s1 d1

theorem runHistory_eq_runAtoms (fs : List TransAtom) : ∀ (acts : List Action) (s : State) (d : DrawSt),
    runHistory fs acts s d = runAtoms (acts.flatMap fun a => fs.map fun f => (f, a)) s d
  | [], _, _ => rfl
  | a :: as, s, d => by
    rw [runHistory, List.flatMap_cons, runAtoms_append, ← runChain_eq_runAtoms]
    cases runChain fs s a d with
    | error e => rfl
    | ok r => exact runHistory_eq_runAtoms fs as r.1 r.2

theorem mem_of_mem_chainAtoms {fs : List TransAtom} {a : Action} {fa : TransAtom × Action}
    (h : fa ∈ fs.map fun f => (f, a)) : fa.1 ∈ fs := by
  obtain ⟨f, hf, rfl⟩ := List.mem_map.mp h
  exact hf

theorem mem_of_mem_historyAtoms {fs : List TransAtom} {acts : List Action} {fa : TransAtom × Action}
    (h : fa ∈ acts.flatMap fun a => fs.map fun f => (f, a)) : fa.1 ∈ fs := by
  obtain ⟨a, _, h⟩ := List.mem_flatMap.mp h
  exact mem_of_mem_chainAtoms h

theorem runChain_inv {P : State → Prop} (fs : List TransAtom)
    (hstep : ∀ f ∈ fs, ∀ s a s', P s → Step f s a s' → P s')
    (s s' : State) (a : Action) (d d' : DrawSt) (hP : P s)
    (h : runChain fs s a d = .ok (s', d')) : P s' := by
  rw [runChain_eq_runAtoms] at h
  exact runAtoms_inv _ (fun fa hfa s s' => hstep fa.1 (mem_of_mem_chainAtoms hfa) s fa.2 s') s s' d d' hP h

theorem runHistory_inv {P : State → Prop} (fs : List TransAtom)
    (hstep : ∀ f ∈ fs, ∀ s a s', P s → Step f s a s' → P s')
    (acts : List Action) (s s' : State) (d d' : DrawSt) (hP : P s)
    (h : runHistory fs acts s d = .ok (s', d')) : P s' := by
  rw [runHistory_eq_runAtoms] at h
  exact runAtoms_inv _ (fun fa hfa s s' => hstep fa.1 (mem_of_mem_historyAtoms hfa) s fa.2 s') s s' d d' hP h

theorem runChain_shape (fs : List TransAtom) (s s' : State) (a : Action) (d d' : DrawSt)
    (hw : s.grid.WF) (h : runChain fs s a d = .ok (s', d')) :
    s'.grid.WF ∧ s'.grid.h = s.grid.h ∧ s'.grid.w = s.grid.w :=
  runChain_inv (P := fun t => t.grid.WF ∧ t.grid.h = s.grid.h ∧ t.grid.w = s.grid.w) fs
    (fun _ _ _ _ _ hP h => by
      obtain ⟨h1, h2, h3⟩ := h.shape hP.1
      exact ⟨h1, h2.trans hP.2.1, h3.trans hP.2.2⟩)
    s s' a d d' ⟨hw, rfl, rfl⟩ h

end GV
