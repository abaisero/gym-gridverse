/-
  The `crossing` layout.  `limits`: the rivers of one direction between the two border lines, a split
  vector in the sense of `rooms`.  `CrossBase`: the room with the rivers drawn.  `CrossInv`: what the
  path-opening loop keeps — only interior wall cells are opened, and the room it has arrived in is
  connected to (1, 1) — carried through the whole loop by `crossingPath_spec`.
-/
import GridVerse.Props.C13
import GridVerse.Lemmas.Rooms
import GridVerse.Lemmas.Conn
namespace GV

/-- the river coordinates of one direction: sorted, distinct, even, inside `[2, n-3]` -/
structure RiversOK (n : Int) (l : List Int) : Prop where
  sorted : Sorted l
  nodup : l.Nodup
  mem : ∀ x ∈ l, 2 ≤ x ∧ x ≤ n - 3 ∧ x % 2 = 0

/-- the limit vector of one direction, as `resetCrossing` writes it: consecutive entries are the walls
(rim or river) on the two sides of a row or column of rooms -/
def limits (n : Int) (l : List Int) : List Int := [0] ++ l ++ [n - 1]

theorem limits_eq (n : Int) (l : List Int) : limits n l = 0 :: (l ++ [n - 1]) := rfl

theorem mem_limits {n x : Int} {l : List Int} (h : x ∈ l) : x ∈ limits n l :=
  List.mem_cons_of_mem _ (List.mem_append_left _ h)

/-- a split vector in the sense of `rooms`, so that the one-dimensional lemmas about those
(`SplitsOK.pair`, `.between`) apply -/
theorem limits_ok {n : Int} {l : List Int} (hn : 5 ≤ n) (r : RiversOK n l) : SplitsOK n (limits n l) := by
  refine ⟨gapped_iff_pairwise.mpr ?_, rfl, ?_, by simp [limits]⟩
  · -- distinct even numbers in order are two apart, and the candidates keep two away from both rims
    have hl : l.Pairwise fun a b => a + 2 ≤ b :=
      ((sorted_iff_pairwise.mp r.sorted).and r.nodup).imp_of_mem fun ha hb h => by
        have := r.mem _ ha
        have := r.mem _ hb
        omega
    rw [limits_eq]
    refine List.pairwise_cons.mpr ⟨fun x hx => ?_,
      List.pairwise_append.mpr ⟨hl, List.pairwise_singleton _ _, fun a ha b hb => ?_⟩⟩
    · rcases List.mem_append.mp hx with h | h
      · have := r.mem x h
        omega
      · rw [List.mem_singleton.mp h]; omega
    · have := r.mem a ha
      rw [List.mem_singleton.mp hb]; omega
  · rw [limits, List.getLast?_append]; simp

theorem limits_pair {n : Int} {l : List Int} {k : Nat} (hk : k < l.length + 1) :
    ((limits n l).getD k 0, (limits n l).getD (k + 1) 0) ∈ pairwise (limits n l) :=
  getD_pair_mem _ k (by simp [limits]; omega)

theorem limits_room {n : Int} {l : List Int} (hn : 5 ≤ n) (r : RiversOK n l) {k : Nat} (hk : k < l.length + 1) :
    0 ≤ (limits n l).getD k 0 ∧ (limits n l).getD k 0 + 2 ≤ (limits n l).getD (k + 1) 0 ∧
      (limits n l).getD (k + 1) 0 ≤ n - 1 :=
  (limits_ok hn r).pair (limits_pair hk)

theorem limits_river {n : Int} {l : List Int} {k : Nat} (hk : k < l.length) : (limits n l).getD (k + 1) 0 ∈ l := by
  simp only [limits_eq, List.getD, List.getElem?_cons_succ]
  rw [List.getElem?_append_left hk]
  simp [List.getElem?_eq_getElem hk]

theorem limits_last (n : Int) (l : List Int) : (limits n l).getD (l.length + 1) 0 = n - 1 := by
  simp [limits_eq, List.getD]

/-- the cell of the walled room with the exit in the far corner -/
def baseCell (sh : Shape) (q : Pos) : Obj :=
  if q = ⟨sh.h - 2, sh.w - 2⟩ then .exit .none else if onBorder sh.h.toNat sh.w.toNat q then .wall else .floor

/-- the grid once the rivers `H` (rows) and `V` (columns) are drawn, with what the reset has checked of
the shape and knows of the rivers by then: all a statement about the rooms between them needs -/
structure CrossBase (sh : Shape) (H V : List Int) (g : Grid) : Prop where
  hh : 5 ≤ sh.h
  hw : 5 ≤ sh.w
  rh : RiversOK sh.h H
  rv : RiversOK sh.w V
  shows : g.Shows sh.h.toNat sh.w.toNat fun q =>
    if (1 ≤ q.y ∧ q.y < sh.h - 1) ∧ q.x ∈ V then .wall
    else if q.y ∈ H ∧ 1 ≤ q.x ∧ q.x < sh.w - 1 then .wall else baseCell sh q

/-- inside the room number `(ri, rj)`, counted from the top-left one -/
def InRoom (sh : Shape) (H V : List Int) (ri rj : Nat) (c : Pos) : Prop :=
  (limits sh.h H).getD ri 0 < c.y ∧ c.y < (limits sh.h H).getD (ri + 1) 0 ∧
    (limits sh.w V).getD rj 0 < c.x ∧ c.x < (limits sh.w V).getD (rj + 1) 0

namespace CrossBase
variable {sh : Shape} {H V : List Int} {g : Grid}

theorem border (b : CrossBase sh H V g) {q : Pos} (hq : g.contains q = true) (hb : onBorder sh.h.toNat sh.w.toNat q) :
    g.at q = .wall := by
  have hne : q ≠ ⟨sh.h - 2, sh.w - 2⟩ := by
    rintro rfl
    have := b.hh; have := b.hw
    unfold onBorder at hb; simp only at hb; omega
  simp only [b.shows.cell q hq, baseCell, if_neg hne, if_pos hb, ite_self]

theorem kinds (b : CrossBase sh H V g) {q : Pos} (hq : g.contains q = true) :
    g.at q = .wall ∨ g.at q = .floor ∨ q = ⟨sh.h - 2, sh.w - 2⟩ := by
  rw [b.shows.cell q hq, baseCell]
  split
  · exact .inl rfl
  split
  · exact .inl rfl
  split
  · exact .inr (.inr ‹_›)
  split
  · exact .inl rfl
  · exact .inr (.inl rfl)

/-- a cell inside a room lies on no river and not on the border -/
theorem room_at (b : CrossBase sh H V g) {ri rj : Nat} (hri : ri < H.length + 1) (hrj : rj < V.length + 1)
    {c : Pos} (hc : InRoom sh H V ri rj c) :
    g.contains c = true ∧ g.at c = if c = ⟨sh.h - 2, sh.w - 2⟩ then .exit .none else .floor := by
  obtain ⟨hyH, _, _⟩ := (limits_ok b.hh b.rh).between (limits_pair hri) hc.1 hc.2.1
  obtain ⟨hxV, _, _⟩ := (limits_ok b.hw b.rv).between (limits_pair hrj) hc.2.2.1 hc.2.2.2
  have hin : g.contains c = true := by rw [b.shows.contains_iff]; omega
  refine ⟨hin, ?_⟩
  rw [b.shows.cell c hin, if_neg fun h => hxV (mem_limits h.2), if_neg fun h => hyH (mem_limits h.1), baseCell,
    if_neg (by unfold onBorder; omega : ¬ onBorder sh.h.toNat sh.w.toNat c)]

theorem room_free (b : CrossBase sh H V g) {ri rj : Nat} (hri : ri < H.length + 1) (hrj : rj < V.length + 1)
    (c : Pos) (hc : InRoom sh H V ri rj c) : Free g c := by
  obtain ⟨hin, hat⟩ := b.room_at hri hrj hc
  exact ⟨hin, by rw [hat]; split <;> rfl⟩

theorem start (b : CrossBase sh H V g) : InRoom sh H V 0 0 ⟨1, 1⟩ := by
  have gH := (limits_room b.hh b.rh (k := 0) (by omega)).2.1
  have gV := (limits_room b.hw b.rv (k := 0) (by omega)).2.1
  unfold InRoom
  simp only [Nat.zero_add, limits_eq, List.getD_cons_zero] at gH gV ⊢
  omega

theorem finish (b : CrossBase sh H V g) : InRoom sh H V H.length V.length ⟨sh.h - 2, sh.w - 2⟩ := by
  have lH := limits_room b.hh b.rh (k := H.length) (by omega)
  have lV := limits_room b.hw b.rv (k := V.length) (by omega)
  unfold InRoom
  simp only [limits_last] at lH lV ⊢
  omega

end CrossBase

/-- what the path-opening loop maintains: `g` is the river grid `g2` (`base`) with some interior wall cells
turned into floor (`opened`), and every cell of the room `(ri, rj)` the loop has arrived in is connected to
the agent's cell -/
structure CrossInv (sh : Shape) (H V : List Int) (g2 g : Grid) (ri rj : Nat) : Prop where
  base : CrossBase sh H V g2
  opened : Opened (fun q => g2.at q = .wall ∧ Interior sh.h.toNat sh.w.toNat q) g2 g
  conn : ∀ c, InRoom sh H V ri rj c → Conn g ⟨1, 1⟩ c

theorem free_setP_floor {g : Grid} (wf : g.WF) (p : Pos) (hp : g.contains p = true) (q : Pos) (h : Free g q) :
    Free (g.setP p .floor) q := by
  refine ⟨by simpa using h.1, ?_⟩
  rw [Grid.at_setP g wf p _ hp]
  split
  · rfl
  · exact h.2

theorem free_opening {g : Grid} (wf : g.WF) (p : Pos) (hp : g.contains p = true) : Free (g.setP p .floor) p := by
  refine ⟨by simpa using hp, ?_⟩
  rw [Grid.at_setP g wf p _ hp, if_pos rfl]; rfl

variable {sh : Shape} {H V : List Int} {g2 g : Grid} {ri rj : Nat}

theorem CrossInv.mono (inv : CrossInv sh H V g2 g ri rj) (q : Pos) (h : Free g2 q) : Free g q := by
  refine ⟨(inv.opened.contains q).trans h.1, ?_⟩
  rcases inv.opened.cell q with e | ⟨e, _⟩
  · rw [e]; exact h.2
  · rw [e]; rfl

/-- opening the river cell `o` between a cell `a` of the room reached so far and a cell `c` of room
`(ri', rj')`: that room is now reached, through `a`, `o`, `c` -/
theorem CrossInv.open (inv : CrossInv sh H V g2 g ri rj) {ri' rj' : Nat} (hri' : ri' < H.length + 1)
    (hrj' : rj' < V.length + 1) {a o c : Pos} (hao : Adj a o) (hoc : Adj o c)
    (ha : InRoom sh H V ri rj a) (hc : InRoom sh H V ri' rj' c)
    (hin : g2.contains o = true) (hwall : g2.at o = .wall) (hint : Interior sh.h.toNat sh.w.toNat o) :
    g.contains o = true ∧ CrossInv sh H V g2 (g.setP o .floor) ri' rj' := by
  have hing : g.contains o = true := (inv.opened.contains o).trans hin
  have monoNew : ∀ q, Free g q → Free (g.setP o .floor) q := free_setP_floor inv.opened.wf _ hing
  have roomFree : ∀ q, InRoom sh H V ri' rj' q → Free (g.setP o .floor) q :=
    fun q hq => monoNew q (inv.mono q (inv.base.room_free hri' hrj' q hq))
  exact ⟨hing, inv.base, inv.opened.setP hing ⟨hwall, hint⟩, fun q hq =>
    ((inv.conn a ha).mono monoNew).trans ((Conn.single hao (free_opening inv.opened.wf _ hing)).trans
      ((Conn.single hoc (roomFree c hc)).trans (conn_rect _ _ _ _ _ roomFree hc hq)))⟩

theorem cross_step_right (inv : CrossInv sh H V g2 g ri rj) (hri : ri < H.length + 1) (hrj : rj < V.length) (i : Int)
    (hi1 : (limits sh.h H).getD ri 0 < i) (hi2 : i < (limits sh.h H).getD (ri + 1) 0) :
    g.contains ⟨i, (limits sh.w V).getD (rj + 1) 0⟩ = true ∧
    CrossInv sh H V g2 (g.setP ⟨i, (limits sh.w V).getD (rj + 1) 0⟩ .floor) ri (rj + 1) := by
  have b := inv.base
  have lH := limits_room b.hh b.rh hri
  have lV := limits_room b.hw b.rv (k := rj) (by omega)
  have lV' := limits_room b.hw b.rv (k := rj + 1) (by omega)
  have hvV : _ ∈ V := limits_river (n := sh.w) hrj
  generalize hv : (limits sh.w V).getD (rj + 1) 0 = v at lV lV' hvV ⊢
  have hin2 : g2.contains ⟨i, v⟩ = true := by rw [b.shows.contains_iff]; simp only; omega
  refine inv.open hri (by omega) (adj_left i v).symm (adj_right i v)
    ⟨hi1, hi2, by simp only; omega, by rw [hv]; simp only; omega⟩
    ⟨hi1, hi2, by rw [hv]; simp only; omega, by simp only; omega⟩ hin2 ?_ (by unfold Interior; simp only; omega)
  rw [b.shows.cell _ hin2, if_pos ⟨⟨by simp only; omega, by simp only; omega⟩, hvV⟩]

theorem cross_step_down (inv : CrossInv sh H V g2 g ri rj) (hri : ri < H.length) (hrj : rj < V.length + 1) (j : Int)
    (hj1 : (limits sh.w V).getD rj 0 < j) (hj2 : j < (limits sh.w V).getD (rj + 1) 0) :
    g.contains ⟨(limits sh.h H).getD (ri + 1) 0, j⟩ = true ∧
    CrossInv sh H V g2 (g.setP ⟨(limits sh.h H).getD (ri + 1) 0, j⟩ .floor) (ri + 1) rj := by
  have b := inv.base
  have lV := limits_room b.hw b.rv hrj
  have lH := limits_room b.hh b.rh (k := ri) (by omega)
  have lH' := limits_room b.hh b.rh (k := ri + 1) (by omega)
  have hvH : _ ∈ H := limits_river (n := sh.h) hri
  generalize hv : (limits sh.h H).getD (ri + 1) 0 = v at lH lH' hvH ⊢
  have hin2 : g2.contains ⟨v, j⟩ = true := by rw [b.shows.contains_iff]; simp only; omega
  refine inv.open (by omega) hrj (adj_up v j).symm (adj_down v j)
    ⟨by simp only; omega, by rw [hv]; simp only; omega, hj1, hj2⟩
    ⟨by rw [hv]; simp only; omega, by simp only; omega, hj1, hj2⟩ hin2 ?_ (by unfold Interior; simp only; omega)
  rw [b.shows.cell _ hin2]
  split
  · rfl
  · rw [if_pos ⟨hvH, by simp only; omega, by simp only; omega⟩]

/-- the whole loop: a path with `ri' - ri` down steps and `rj' - rj` right steps leads from room `(ri, rj)` to
room `(ri', rj')` -/
theorem crossingPath_spec (path : List Bool) (ri rj ri' rj' : Nat) (g : Grid) (d : DrawSt)
    (hF : ri + path.count false = ri') (hT : rj + path.count true = rj') (hri' : ri' ≤ H.length) (hrj' : rj' ≤ V.length)
    (inv : CrossInv sh H V g2 g ri rj) :
    ∃ g' d', crossingPath (limits sh.h H) (limits sh.w V) path ri rj (g, d) = .ok (g', d') ∧
      CrossInv sh H V g2 g' ri' rj' := by
  induction path generalizing ri rj g d with
  | nil => exact ⟨g, d, rfl, by rw [← hF, ← hT]; exact inv⟩
  | cons st rest ih =>
    have b := inv.base
    cases st with
    | true =>
      simp only [List.count_cons_self, List.count_cons_of_ne (by decide : true ≠ false)] at hT hF
      have gap := (limits_room b.hh b.rh (k := ri) (by omega)).2.1
      obtain ⟨i, d1, hdraw, hi1, hi2⟩ := drawIntegers_some ((limits sh.h H).getD ri 0 + 1)
        ((limits sh.h H).getD (ri + 1) 0) (by omega) d
      obtain ⟨hin, inv'⟩ := cross_step_right inv (by omega) (by omega) i (by omega) hi2
      obtain ⟨g', d', hrun, inv''⟩ := ih ri (rj + 1) _ d1 hF (by omega) inv'
      exact ⟨g', d', by simp only [crossingPath, if_true, hdraw, Grid.setE_ok _ _ _ hin, hrun], inv''⟩
    | false =>
      simp only [List.count_cons_self, List.count_cons_of_ne (by decide : false ≠ true)] at hT hF
      have gap := (limits_room b.hw b.rv (k := rj) (by omega)).2.1
      obtain ⟨j, d1, hdraw, hj1, hj2⟩ := drawIntegers_some ((limits sh.w V).getD rj 0 + 1)
        ((limits sh.w V).getD (rj + 1) 0) (by omega) d
      obtain ⟨hin, inv'⟩ := cross_step_down inv (by omega) (by omega) j (by omega) hj2
      obtain ⟨g', d', hrun, inv''⟩ := ih (ri + 1) rj _ d1 (by omega) hT inv'
      exact ⟨g', d', by simp only [crossingPath, Bool.false_eq_true, if_false, hdraw, Grid.setE_ok _ _ _ hin, hrun],
        inv''⟩

end GV
