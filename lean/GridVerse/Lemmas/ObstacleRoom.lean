/-
  What the sparse game of Lemmas/ObstacleGame.lean stands for: a sparse state is a state of the model
  (`ObsRoom`, `RoomState`), one step of the game is one step of the model (`roomStep_sound`), so a
  certificate the game accepts is accepted by the model's own `checkPlan` from the corresponding reset
  state (`roomCert_sound`).
-/
import GridVerse.Lemmas.ObstacleGame
import GridVerse.Lemmas.ObstacleCert
import GridVerse.Lemmas.Obstacles
import GridVerse.Lemmas.Walk
import GridVerse.Props.C13
namespace GV

theorem drawChoice_pick (n : Nat) (ds : List Nat) (log : List Req) :
    drawChoice n ⟨ds, log⟩ = ((pick n ds).1, ⟨(pick n ds).2, log ++ [.choice n]⟩) := by
  unfold drawChoice pick
  by_cases hn : n = 0
  · simp [hn, DrawSt.note]
  · cases ds <;> simp [hn, DrawSt.note, DrawSt.pop]

theorem pick_lt {n i : Nat} {ds ds' : List Nat} (h : pick n ds = (some i, ds')) : i < n :=
  drawChoice_some_lt n ⟨ds, []⟩ _ i (by rw [drawChoice_pick, h])

/-- `g` is the walled `h × w` room with the exit in the far corner and obstacles exactly on `obs` -/
structure ObsRoom (h w : Nat) (obs : List Cell) (g : Grid) : Prop where
  wf : g.WF
  gh : g.h = h
  gw : g.w = w
  cell : ∀ c : Cell, c.1 < h → c.2 < w → g.at (cellPos c) =
    if innerCell h w c then
      if c ∈ obs then .obstacle else if c = exitCell h w then .exit .none else .floor
    else .wall
  vacant : ∀ c ∈ obs, vacantCell h w c = true

namespace ObsRoom
variable {h w : Nat} {obs : List Cell} {g : Grid}

theorem contains (r : ObsRoom h w obs g) (c : Cell) :
    g.contains (cellPos c) = true ↔ c.1 < h ∧ c.2 < w := by
  rw [Grid.contains_iff, r.gh, r.gw]
  simp only [cellPos]
  omega

theorem inner_lt {c : Cell} (hc : innerCell h w c = true) : c.1 < h ∧ c.2 < w := by
  rw [innerCell_iff] at hc
  omega

theorem contains_inner (r : ObsRoom h w obs g) {c : Cell} (hc : innerCell h w c = true) :
    g.contains (cellPos c) = true :=
  (r.contains c).mpr (inner_lt hc)

theorem at_inner (r : ObsRoom h w obs g) {c : Cell} (hc : innerCell h w c = true) :
    g.at (cellPos c) = if c ∈ obs then .obstacle else if c = exitCell h w then .exit .none else .floor := by
  rw [r.cell c (inner_lt hc).1 (inner_lt hc).2, if_pos hc]

theorem inner_of_mem (r : ObsRoom h w obs g) {c : Cell} (hc : c ∈ obs) : innerCell h w c = true :=
  (vacantCell_iff.mp (r.vacant c hc)).1

theorem at_mem (r : ObsRoom h w obs g) {c : Cell} (hc : c ∈ obs) : g.at (cellPos c) = .obstacle := by
  rw [r.at_inner (r.inner_of_mem hc), if_pos hc]

theorem congr (r : ObsRoom h w obs g) {obs' : List Cell} (hm : ∀ c, c ∈ obs' ↔ c ∈ obs) :
    ObsRoom h w obs' g :=
  ⟨r.wf, r.gh, r.gw, fun c h1 h2 => by rw [r.cell c h1 h2]; simp only [hm],
   fun c hc => r.vacant c ((hm c).mp hc)⟩

theorem freeNbrs_eq (r : ObsRoom h w obs g) {p : Cell} (hp : innerCell h w p = true) :
    GV.freeNbrs g (cellPos p) = ((nbrCells p).filter (freeCell h w obs)).map cellPos := by
  have hp' := innerCell_iff.mp hp
  have hb : manhattanBoundary (cellPos p) 1 = (nbrCells p).map cellPos := by
    simp only [manhattanBoundary, nbrCells, cellPos, List.range_succ, List.range_zero, List.nil_append,
      List.map_cons, List.map_nil, List.cons_append, List.cons.injEq, Pos.mk.injEq, and_true]
    omega
  unfold GV.freeNbrs
  rw [hb, List.filter_map]
  congr 1
  apply List.filter_congr
  intro c hc
  have hlt : c.1 < h ∧ c.2 < w := by
    simp only [nbrCells, List.mem_cons, List.not_mem_nil, or_false] at hc
    rcases hc with rfl | rfl | rfl | rfl <;> simp only <;> omega
  simp only [Function.comp, (r.contains c).mpr hlt, freeCell, vacantCell, Bool.true_and, r.cell c hlt.1 hlt.2]
  by_cases hi : innerCell h w c = true
  · by_cases ho : c ∈ obs
    · simp [hi, ho, Obj.isKind, Obj.kind]
    · by_cases he : c = exitCell h w
      · subst he; simp [hi, ho, Obj.isKind, Obj.kind]
      · simp [hi, ho, he, Obj.isKind, Obj.kind]
  · simp [hi, Obj.isKind, Obj.kind]

theorem swap (r : ObsRoom h w obs g) {p n : Cell} (hp : p ∈ obs) (hn : freeCell h w obs n = true) :
    ObsRoom h w (n :: obs.filter (· != p)) (g.swap (cellPos p) (cellPos n)) := by
  simp only [freeCell, Bool.and_eq_true, Bool.not_eq_true', List.contains_eq_mem, decide_eq_false_iff_not] at hn
  obtain ⟨hnv, hno⟩ := hn
  have hpi := r.inner_of_mem hp
  obtain ⟨hni, hne⟩ := vacantCell_iff.mp hnv
  have hnf : g.at (cellPos n) = .floor := by rw [r.at_inner hni, if_neg hno, if_neg hne]
  refine ⟨Grid.swap_WF g r.wf _ _, r.gh, r.gw, ?_, ?_⟩
  · intro c h1 h2
    rw [Grid.at_swap g r.wf _ _ (r.contains_inner hpi) (r.contains_inner hni),
      r.at_mem hp, hnf, r.cell c h1 h2]
    simp only [cellPos_inj]
    by_cases hcn : c = n
    · subst hcn; simp [hni]
    · by_cases hcp : c = p
      · subst hcp
        simp [hcn, hpi, (vacantCell_iff.mp (r.vacant c hp)).2]
      · simp [hcn, hcp]
  · intro c hc
    simp only [List.mem_cons, List.mem_filter] at hc
    rcases hc with rfl | ⟨hc, _⟩
    · exact hnv
    · exact r.vacant c hc

theorem sorted_pos {l : List Cell} (hs : sortedCells l = true) : (l.map cellPos).Pairwise Pos.rowLt := by
  induction l with
  | nil => exact List.Pairwise.nil
  | cons a r ih =>
    simp only [sortedCells, Bool.and_eq_true, List.all_eq_true] at hs
    rw [List.map_cons, List.pairwise_cons]
    refine ⟨?_, ih hs.2⟩
    intro q hq
    obtain ⟨b, hb, rfl⟩ := List.mem_map.mp hq
    have := hs.1 b hb
    simp only [cellLt, Bool.or_eq_true, Bool.and_eq_true, decide_eq_true_eq, beq_iff_eq] at this
    simp only [Pos.rowLt, cellPos]
    omega

theorem find_obstacles (r : ObsRoom h w obs g) (hs : sortedCells obs = true) :
    (g.find fun o => o.isKind .obstacle) = obs.map cellPos := by
  apply Grid.find_eq_of_sorted _ _ _ (sorted_pos hs)
  intro q
  constructor
  · intro hq
    obtain ⟨c, hc, rfl⟩ := List.mem_map.mp hq
    exact ⟨r.contains_inner (r.inner_of_mem hc), by rw [r.at_mem hc]; rfl⟩
  · rintro ⟨hq, hk⟩
    obtain ⟨i, j, hi, hj, rfl⟩ := Grid.exists_natCast hq
    refine List.mem_map.mpr ⟨(i, j), ?_, rfl⟩
    -- a cell without an obstacle holds the exit, floor or a wall
    refine Decidable.byContradiction fun ho => ?_
    rw [show (⟨i, j⟩ : Pos) = cellPos (i, j) from rfl, r.cell (i, j) (r.gh ▸ hi) (r.gw ▸ hj), if_neg ho] at hk
    split at hk
    · split at hk <;> cases hk
    · cases hk

end ObsRoom

theorem roomSweep_sound {h w : Nat} (k : List Cell → List Nat → Bool) :
    ∀ (ps obs : List Cell) (ds : List Nat) (log : List Req) (g : Grid),
      ObsRoom h w obs g → (∀ p ∈ ps, p ∈ obs) → ps.Nodup → roomSweep h w ps obs ds k = true →
      ∃ obs' g' ds' log', obstaclesFold (ps.map cellPos) g ⟨ds, log⟩ = (g', ⟨ds', log'⟩) ∧
        ObsRoom h w obs' g' ∧ k obs' ds' = true := by
  intro ps
  induction ps with
  | nil => intro obs ds log g r _ _ hk; exact ⟨obs, g, ds, log, rfl, r, hk⟩
  | cons p ps ih =>
    intro obs ds log g r hps hnd hk
    obtain ⟨hpn, hnd'⟩ := List.nodup_cons.mp hnd
    have hp : p ∈ obs := hps p (List.mem_cons_self ..)
    have hpi := r.inner_of_mem hp
    rw [List.map_cons, obstaclesFold_cons, obstacleStep_of_draw (drawChoice_pick _ ds log), r.freeNbrs_eq hpi,
      List.length_map]
    simp only [roomSweep, forceCells_eq] at hk
    cases hpick : pick ((nbrCells p).filter (freeCell h w obs)).length ds with
    | mk oi ds1 =>
      rw [hpick] at hk
      cases oi with
      | none => exact ih obs ds1 _ g r (fun q hq => hps q (List.mem_cons_of_mem _ hq)) hnd' hk
      | some i =>
        have hi := pick_lt hpick
        have hfree : freeCell h w obs (((nbrCells p).filter (freeCell h w obs)).getD i p) = true := by
          rw [getD_of_lt p hi]
          exact (List.mem_filter.mp (List.getElem_mem hi)).2
        generalize (nbrCells p).filter (freeCell h w obs) = ns at hi hk hfree ⊢
        dsimp only
        rw [getD_map]
        refine ih _ ds1 _ _ (r.swap hp hfree) ?_ hnd' hk
        intro q hq
        have hqp : q ≠ p := fun e => hpn (e ▸ hq)
        simp [hps q (List.mem_cons_of_mem _ hq), hqp]

theorem mem_insertCell (c x : Cell) (l : List Cell) : x ∈ insertCell c l ↔ x = c ∨ x ∈ l := by
  induction l with
  | nil => simp [insertCell]
  | cons y ys ih =>
    simp only [insertCell]
    split
    · simp
    · simp only [List.mem_cons, ih, or_left_comm]

theorem mem_sortCells (x : Cell) (l : List Cell) : x ∈ sortCells l ↔ x ∈ l := by
  induction l with
  | nil => simp [sortCells]
  | cons y ys ih =>
    have : sortCells (y :: ys) = insertCell y (sortCells ys) := rfl
    rw [this, mem_insertCell, ih, List.mem_cons]

theorem stepCell_nextPos {c c' : Cell} {a : Action} (h : stepCell c a = some c') (h1 : 1 ≤ c.1) (h2 : 1 ≤ c.2) :
    a.isMove = true ∧ nextPos (cellPos c) .R a = cellPos c' := by
  cases a <;> simp only [stepCell, Option.some.injEq, reduceCtorEq] at h <;> subst h <;>
    refine ⟨rfl, ?_⟩ <;>
    simp only [nextPos, Action.moveOrient, Orient.mul, Pos.ofOrient, Pos.add, cellPos, Pos.mk.injEq] <;> omega

/-- the model state a sparse state stands for -/
structure RoomState (h w : Nat) (a : Cell) (obs : List Cell) (s : State) : Prop where
  room : ObsRoom h w obs s.grid
  agent : s.agent = ⟨cellPos a, .R, .noneObj⟩
  inner : innerCell h w a = true

theorem RoomState.goal {h w : Nat} {a : Cell} {obs : List Cell} {s : State} (r : RoomState h w a obs s) :
    goalExit s = (a == exitCell h w) := by
  unfold goalExit
  rw [r.agent]
  simp only [r.room.contains_inner r.inner, Bool.true_and]
  rw [r.room.at_inner r.inner]
  split
  · next ho => exact (beq_eq_false_iff_ne.mpr (vacantCell_iff.mp (r.room.vacant a ho)).2).symm
  · split
    · next he => exact (beq_iff_eq.mpr he).symm
    · next he => exact (beq_eq_false_iff_ne.mpr he).symm

theorem roomStep_sound {h w : Nat} {a a' : Cell} {obs : List Cell} {s : State} {act : Action}
    (ds : List Nat) (log : List Req) (k : List Cell → List Nat → Bool)
    (r : RoomState h w a obs s) (hstep : stepCell a act = some a') (ha' : innerCell h w a' = true)
    (hsorted : sortedCells (sortCells obs) = true)
    (hsweep : roomSweep h w (sortCells obs) (sortCells obs) ds k = true) :
    ∃ obs' s' ds' log', runChain obsChain s act ⟨ds, log⟩ = .ok (s', ⟨ds', log'⟩) ∧
      RoomState h w a' obs' s' ∧ k obs' ds' = true ∧
      (a' ∉ obs' → a' ≠ exitCell h w → obsStop s act s' = false) := by
  have hai := innerCell_iff.mp r.inner
  obtain ⟨hmove, hnp⟩ := stepCell_nextPos hstep (by omega) (by omega)
  have hc' := r.room.contains_inner ha'
  have hnb : (s.grid.at (cellPos a')).blocksMovement = false ∧ (s.grid.at (cellPos a')).isKind .wall = false := by
    rw [r.room.at_inner ha']
    split
    · exact ⟨rfl, rfl⟩
    · split <;> exact ⟨rfl, rfl⟩
  have hnp' : nextPos s.agent.pos s.agent.o act = cellPos a' := by rw [r.agent]; exact hnp
  have hma : moveAgent s act = { s with agent := ⟨cellPos a', .R, .noneObj⟩ } := by
    simp only [moveAgent, hmove, if_true, hnp', hc', hnb.1, Bool.false_eq_true, if_false]
    rw [r.agent]
  have rs := r.room.congr (mem_sortCells · obs)
  obtain ⟨obs', g', ds', log', hfold, r', hk⟩ := roomSweep_sound k _ _ ds log s.grid rs (fun _ h => h)
    (List.Pairwise.of_map cellPos (fun _ _ h e => h (congrArg cellPos e))
      ((ObsRoom.sorted_pos hsorted).imp Pos.rowLt.ne)) hsweep
  refine ⟨obs', ⟨g', ⟨cellPos a', .R, .noneObj⟩⟩, ds', log', ?_, ⟨r', rfl, ha'⟩, hk, fun ho he => ?_⟩
  · simp only [obsChain, runChain, TransAtom.run, hma, turnAgent_of_isMove _ hmove, moveObstacles_eq,
      rs.find_obstacles hsorted, hfold]
  · -- no exit, no obstacle under the agent; and its target was no wall
    have hc2 := r'.contains_inner ha'
    have hat2 : g'.at (cellPos a') = .floor := by rw [r'.at_inner ha', if_neg ho, if_neg he]
    simp only [obsStop, stopOf, TermFn.eval, TermFn.evalAny, termOverlap,
      Grid.pyGet_of_contains _ r'.wf _ hc2, hat2, hnp', hc', hnb.2]
    rfl

theorem roomPlan_sound {h w : Nat} :
    ∀ (acts : List Action) (a : Cell) (obs : List Cell) (ds : List Nat) (log : List Req) (s : State),
      RoomState h w a obs s → roomPlan h w a obs acts ds = true →
      checkPlan obsChain obsStop goalExit s acts ⟨ds, log⟩ = true := by
  intro acts
  induction acts with
  | nil => intro a obs ds log s r hp; simpa [checkPlan, r.goal, roomPlan] using hp
  | cons act acts ih =>
    intro a obs ds log s r hp
    simp only [checkPlan, r.goal, Bool.or_eq_true]
    simp only [roomPlan, Bool.or_eq_true] at hp
    rcases hp with hp | hp
    · exact Or.inl hp
    right
    cases hstep : stepCell a act with
    | none => rw [hstep] at hp; cases hp
    | some a' =>
      rw [hstep] at hp
      simp only [forceCell_eq, forceCells_eq, Bool.and_eq_true] at hp
      obtain ⟨ha', hsorted, hsweep⟩ := hp
      obtain ⟨obs', s', ds', log', hrun, rs', hk, hstop⟩ := roomStep_sound ds log _ r hstep ha' hsorted hsweep
      simp only [Bool.and_eq_true, Bool.or_eq_true, Bool.not_eq_true', List.contains_eq_mem,
        decide_eq_false_iff_not, beq_iff_eq] at hk
      rw [hrun]
      simp only [rs'.goal, Bool.and_eq_true, Bool.or_eq_true, Bool.not_eq_true', beq_iff_eq]
      refine ⟨?_, ih a' obs' ds' log' s' rs' hk.2⟩
      by_cases he : a' = exitCell h w
      · exact Or.inl he
      · exact Or.inr (hstop (hk.1.resolve_left he) he)

theorem ObsRoom.empty {h w : Nat} {g : Grid} (hh : 3 ≤ h) (hw : 3 ≤ w)
    (room : EmptyRoom h w (cellPos (exitCell h w)) g) : ObsRoom h w [] g := by
  refine ⟨room.wf, room.gh, room.gw, fun c h1 h2 => ?_, fun c hc => nomatch hc⟩
  have hb : onBorder h w (cellPos c) ↔ ¬ innerCell h w c = true := by
    simp only [onBorder, cellPos, innerCell_iff]; omega
  rw [room.cell _ ((room.contains_iff _).mpr (by simp only [cellPos]; omega))]
  by_cases hi : innerCell h w c = true
  · simp only [cellPos_inj, hb, hi, not_true_eq_false, if_true, if_false, List.not_mem_nil]
  · have hne : c ≠ exitCell h w := fun e => by
      simp only [e, innerCell_iff, exitCell] at hi; omega
    simp only [cellPos_inj, hb, hi, hne, Bool.false_eq_true, not_false_eq_true, if_true, if_false]

theorem room_state (sh : Shape) (hv : 4 ≤ sh.h ∧ 4 ≤ sh.w) :
    RoomState sh.h.toNat sh.w.toNat (1, 1) [] (room sh) ∧
    ∀ d, resetEmpty sh false false d = .ok (room sh, d) := by
  obtain ⟨s, he, er, hag⟩ := C13_empty_fixed sh hv
  have hroom : room sh = s := by simp only [room, he]
  have hex : (⟨sh.h - 2, sh.w - 2⟩ : Pos) = cellPos (exitCell sh.h.toNat sh.w.toNat) := by
    simp only [cellPos, exitCell, Pos.mk.injEq]; omega
  rw [hroom]
  rw [hex] at er
  exact ⟨⟨.empty (by omega) (by omega) er, hag, innerCell_iff.mpr (by simp only; omega)⟩, he⟩

theorem ObsRoom.draw {h w : Nat} {g : Grid} (r : ObsRoom h w [] g) (obs : List Cell)
    (hv : ∀ c ∈ obs, vacantCell h w c = true) :
    ∃ g', drawAll g (obs.map cellPos) .obstacle = .ok g' ∧ ObsRoom h w obs g' := by
  have hin : ∀ c ∈ obs, innerCell h w c = true := fun c hc => (vacantCell_iff.mp (hv c hc)).1
  obtain ⟨g', hd, wf', gh', gw', hat'⟩ := drawAll_spec g r.wf (obs.map cellPos) .obstacle (by
    intro q hq
    obtain ⟨c, hc, rfl⟩ := List.mem_map.mp hq
    exact r.contains_inner (hin c hc))
  refine ⟨g', hd, wf', gh'.trans r.gh, gw'.trans r.gw, ?_, hv⟩
  intro c h1 h2
  rw [hat', r.cell c h1 h2]
  have hm : cellPos c ∈ obs.map cellPos ↔ c ∈ obs :=
    ⟨fun hq => by obtain ⟨c', hc', e⟩ := List.mem_map.mp hq; exact cellPos_inj.mp e ▸ hc',
     fun hc => List.mem_map.mpr ⟨c, hc, rfl⟩⟩
  by_cases ho : c ∈ obs
  · simp [hm, ho, hin c ho]
  · simp [hm, ho]

/-- the cells `resetDynamicObstacles` picks obstacles from, in its order, are the game's -/
theorem RoomState.vacant_eq {h w : Nat} {s : State} (r : RoomState h w (1, 1) [] s) :
    vacant s = (roomVacant h w).map cellPos := by
  obtain ⟨r, hag, _⟩ := r
  have hpos : s.grid.positions =
      ((List.range h).flatMap fun i => (List.range w).map fun j => (i, j)).map cellPos := by
    simp only [Grid.positions, r.gh, r.gw, List.map_flatMap, List.map_map, Function.comp_def, cellPos]
  -- both sides filter the same enumeration, by predicates that agree on it
  simp only [vacant, floorPositions, Grid.find, hpos, roomVacant, List.filter_map, List.filter_filter]
  congr 1
  apply List.filter_congr
  intro c hc
  obtain ⟨i, hi, hc⟩ := List.mem_flatMap.mp hc
  obtain ⟨j, hj, rfl⟩ := List.mem_map.mp hc
  simp only [Function.comp_def, r.cell (i, j) (List.mem_range.mp hi) (List.mem_range.mp hj), hag,
    List.not_mem_nil, if_false, vacantCell]
  have hne : (cellPos (i, j) != cellPos (1, 1)) = ((i, j) != ((1, 1) : Cell)) := by
    rw [bne, bne, Bool.eq_iff_iff]; simp only [Bool.not_eq_true', beq_eq_false_iff_ne, ne_eq, cellPos_inj]
  rw [hne, Bool.and_comm]
  congr 1
  cases innerCell h w (i, j)
  · rfl
  · by_cases he : (i, j) = exitCell h w
    · simp only [he, if_true, bne_self_eq_false]; rfl
    · simp only [he, if_true, if_false, bne_iff_ne.mpr he]; rfl

theorem roomCert_sound (sh : Shape) (hv : 4 ≤ sh.h ∧ 4 ≤ sh.w)
    (row : List Nat × (List Action × List Nat)) (h : roomCertOK sh.h.toNat sh.w.toNat row = true) :
    certOK (room sh) row = true := by
  simp only [roomCertOK, forceCells_eq, Bool.and_eq_true, List.all_eq_true] at h
  have rs := (room_state sh hv).1
  have ⟨r0, hag, hin⟩ := rs
  obtain ⟨g', hd, r'⟩ := r0.draw _ h.1
  have hps : (row.1.map fun i => (vacant (room sh)).getD i ⟨0, 0⟩) =
      (row.1.map fun i => (roomVacant sh.h.toNat sh.w.toNat).getD i (0, 0)).map cellPos := by
    rw [rs.vacant_eq, List.map_map]
    apply List.map_congr_left
    intro i _
    exact getD_map cellPos _ i (0, 0)
  simp only [vacant] at hps
  unfold certOK obstacleState
  rw [hps, hd]
  exact roomPlan_sound _ _ _ _ _ _ ⟨r', hag, hin⟩ h.2

end GV
