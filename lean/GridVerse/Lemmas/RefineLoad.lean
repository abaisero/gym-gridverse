/-
  `pickle.loads` builds a *separated* representation: every object of the copied state gets its own,
  newly allocated node, so the copy satisfies the invariant under which the in-place transition
  functions refine the pure ones (Lemmas/Refine.lean).  `loads` allocates consecutively, so each object, row
  and grid it builds occupies an interval of references above the ones built before: separation is
  arithmetic on these intervals (`Tree`, `RowTrees`, `GridTrees`, each with the constructors the loader's
  recursion follows; `sep_cons` for a list whose head lies below its tail).
-/
import GridVerse.Lemmas.Refine
namespace GV

/-- `omega` after exposing that references are natural numbers (it does not see through `Ref`) -/
macro "omegaR" : tactic => `(tactic| ((try unfold Ref at *); omega))

/-- the object at `r` denotes `o`, and the references of its content chain lie in `[lo, r]`, each at
one depth only -/
structure Tree (h : Heap) (lo : Nat) (r : Ref) (o : Obj) : Prop where
  den : Denotes h r o
  range : ∀ k x, h.chainAt k r = some x → lo ≤ x ∧ x ≤ r
  inj : ∀ k1 k2 x, h.chainAt k1 r = some x → h.chainAt k2 r = some x → k1 = k2

theorem Tree.stable {h h' : Heap} {lo : Nat} {r : Ref} {o : Obj} (t : Tree h lo r o) (e : Ext h h') (hr : r < h.next) :
    Tree h' lo r o := by
  have hc : ∀ k, h'.chainAt k r = h.chainAt k r := fun k =>
    chainAt_ext e r k fun j x hx => Nat.lt_of_le_of_lt (t.range j x hx).2 hr
  exact ⟨Denotes.stable e _ _ t.den, fun k x hx => t.range k x (hc k ▸ hx),
    fun k1 k2 x h1 h2 => t.inj k1 k2 x (hc k1 ▸ h1) (hc k2 ▸ h2)⟩

theorem Tree.leaf (h : Heap) {o : Obj} (hleaf : ∀ c, o ≠ .box c) : Tree (h.newObj ⟨o, none⟩).2 h.next h.next o := by
  have hl : ((h.newObj ⟨o, none⟩).2.objOf h.next).content = none := by rw [newObj_objOf]
  refine ⟨.newLeaf h hleaf, fun k x hx => ?_, fun k1 k2 x h1 h2 => ?_⟩
  · rw [(chainAt_leaf hl hx).2]; exact ⟨Nat.le_refl _, Nat.le_refl _⟩
  · rw [(chainAt_leaf hl h1).1, (chainAt_leaf hl h2).1]

theorem Tree.box {h : Heap} {lo : Nat} {cr : Ref} {c : Obj} (t : Tree h lo cr c) (hr : cr < h.next) :
    Tree (h.newObj ⟨.box c, some cr⟩).2 lo h.next (.box c) := by
  have t2 := t.stable (ext_newObj h ⟨.box c, some cr⟩) hr
  have hcont : ((h.newObj ⟨.box c, some cr⟩).2.objOf h.next).content = some cr := by rw [newObj_objOf]
  have hlo := (t.range 0 cr rfl).1
  refine ⟨Denotes.box_iff.mpr ⟨Nat.lt_succ_self _, by rw [newObj_objOf], cr, hcont, t2.den⟩,
    fun k x hx => ?_, fun k1 k2 x h1 h2 => ?_⟩
  -- the chain of the new box: itself, then the chain of its content, all of which lies below it
  · cases k with
    | zero => cases hx; omegaR
    | succ k => have := t2.range k x (chainAt_succ hcont k ▸ hx); omegaR
  · cases k1 <;> cases k2
    · rfl
    · cases h1; have := (t2.range _ _ (chainAt_succ hcont _ ▸ h2)).2; omegaR
    · cases h2; have := (t2.range _ _ (chainAt_succ hcont _ ▸ h1)).2; omegaR
    · have := t2.inj _ _ x (chainAt_succ hcont _ ▸ h1) (chainAt_succ hcont _ ▸ h2); omegaR

theorem loadObj_tree (o : Obj) (h : Heap) :
    Tree (h.loadObj o).2 h.next (h.loadObj o).1 o ∧ Alloc h (h.loadObj o).2 ∧ (h.loadObj o).1 + 1 = (h.loadObj o).2.next := by
  induction o generalizing h with
  | box c ih =>
    obtain ⟨t, a, hn⟩ := ih h
    exact ⟨t.box (by omegaR), a.newObj _ (fun x hx => by cases hx; exact (t.range 0 _ rfl).1), rfl⟩
  | _ => exact ⟨.leaf h (fun _ e => by cases e), (Alloc.refl h).newObj _ (fun c hc => by cases hc), rfl⟩

/-- the references `rs` are separated trees for the values `row`, all allocated in `[lo, hi)` -/
structure RowTrees (h : Heap) (lo hi : Nat) (rs : List Ref) (row : List Obj) : Prop where
  len : rs.length = row.length
  den : ∀ (j : Nat) (r : Ref) (o : Obj), rs[j]? = some r → row[j]? = some o → Denotes h r o
  range : ∀ (j : Nat) (r : Ref) (k : Nat) (x : Ref), rs[j]? = some r → h.chainAt k r = some x → lo ≤ x ∧ x < hi
  inj : ∀ (j1 j2 : Nat) (r1 r2 : Ref) (k1 k2 : Nat) (x : Ref), rs[j1]? = some r1 → rs[j2]? = some r2 → h.chainAt k1 r1 = some x →
    h.chainAt k2 r2 = some x → j1 = j2 ∧ k1 = k2

theorem RowTrees.stable {h h' : Heap} {lo hi : Nat} {rs : List Ref} {row : List Obj} (t : RowTrees h lo hi rs row)
    (e : Ext h h') (hhi : hi ≤ h.next) : RowTrees h' lo hi rs row := by
  have hc : ∀ j r, rs[j]? = some r → ∀ k, h'.chainAt k r = h.chainAt k r := fun j r hj k =>
    chainAt_ext e r k fun k x hx => Nat.lt_of_lt_of_le (t.range j r k x hj hx).2 hhi
  exact ⟨t.len, fun j r o hj ho => Denotes.stable e _ _ (t.den j r o hj ho),
    fun j r k x hj hx => t.range j r k x hj (hc j r hj k ▸ hx),
    fun j1 j2 r1 r2 k1 k2 x hj1 hj2 h1 h2 =>
      t.inj j1 j2 r1 r2 k1 k2 x hj1 hj2 (hc j1 r1 hj1 k1 ▸ h1) (hc j2 r2 hj2 k2 ▸ h2)⟩

/-- The items of a list hold references (`F b k x`: item `b` holds `x` at `k`).  If those of the head lie
below `mid`, those of the tail at or above, and on either side a reference is held by one item at one `k`, the
same is true of the whole list: the head and the tail have no reference in common. -/
theorem sep_cons {α κ : Type} {F : α → κ → Ref → Prop} {a : α} {as : List α} (mid : Nat)
    (ra : ∀ k x, F a k x → x < mid) (ras : ∀ (j : Nat) b k x, as[j]? = some b → F b k x → mid ≤ x)
    (ia : ∀ k1 k2 x, F a k1 x → F a k2 x → k1 = k2)
    (ias : ∀ (j1 j2 : Nat) b1 b2 k1 k2 x, as[j1]? = some b1 → as[j2]? = some b2 → F b1 k1 x → F b2 k2 x → j1 = j2 ∧ k1 = k2) :
    ∀ (j1 j2 : Nat) b1 b2 k1 k2 x, (a :: as)[j1]? = some b1 → (a :: as)[j2]? = some b2 → F b1 k1 x → F b2 k2 x →
      j1 = j2 ∧ k1 = k2 := by
  intro j1 j2 b1 b2 k1 k2 x h1 h2 f1 f2
  cases j1 <;> cases j2
  · cases h1; cases h2; exact ⟨rfl, ia k1 k2 x f1 f2⟩
  · cases h1; exact absurd (ra k1 x f1) (Nat.not_lt.mpr (ras _ b2 k2 x h2 f2))
  · cases h2; exact absurd (ra k2 x f2) (Nat.not_lt.mpr (ras _ b1 k1 x h1 f1))
  · obtain ⟨ej, ek⟩ := ias _ _ b1 b2 k1 k2 x h1 h2 f1 f2
    exact ⟨congrArg (· + 1) ej, ek⟩

theorem RowTrees.nil (h : Heap) (lo : Nat) : RowTrees h lo lo [] [] :=
  ⟨rfl, fun _ _ _ hj => (nomatch hj), fun _ _ _ _ hj => (nomatch hj), fun _ _ _ _ _ _ _ hj => (nomatch hj)⟩

theorem RowTrees.cons {h : Heap} {lo mid hi : Nat} {r : Ref} {o : Obj} {rs : List Ref} {os : List Obj}
    (t : Tree h lo r o) (hr : r < mid) (ts : RowTrees h mid hi rs os) (hhi : mid ≤ hi) :
    RowTrees h lo hi (r :: rs) (o :: os) := by
  have hlo := (t.range 0 r rfl).1
  refine ⟨congrArg (· + 1) ts.len, fun j x ob hj ho => ?_, fun j x k y hj hy => ?_,
    sep_cons (F := fun r k x => h.chainAt k r = some x) mid (fun k x hx => Nat.lt_of_le_of_lt (t.range k x hx).2 hr)
      (fun j b k x hj hx => (ts.range j b k x hj hx).1) t.inj ts.inj⟩
  · cases j with
    | zero => cases hj; cases ho; exact t.den
    | succ j => exact ts.den j x ob hj ho
  · cases j with
    | zero => cases hj; have := t.range k y hy; omegaR
    | succ j => have := ts.range j x k y hj hy; omegaR

theorem loadList_rowTrees (row : List Obj) (h : Heap) :
    RowTrees (h.loadList Heap.loadObj row).2 h.next (h.loadList Heap.loadObj row).2.next
      (h.loadList Heap.loadObj row).1 row ∧ Alloc h (h.loadList Heap.loadObj row).2 := by
  induction row generalizing h with
  | nil => exact ⟨.nil h h.next, Alloc.refl h⟩
  | cons o os ih =>
    simp only [Heap.loadList]
    obtain ⟨t1, a1, n1⟩ := loadObj_tree o h
    generalize h.loadObj o = r at t1 a1 n1
    obtain ⟨t2, a2⟩ := ih r.2
    have hr1 : r.1 < r.2.next := by omegaR
    exact ⟨.cons (t1.stable a2.ext hr1) hr1 t2 a2.ext.next, a1.trans a2⟩

/-- the row lists `rrs`, in allocation order, hold separated trees for the values `cellss`, all allocated
in `[lo, hi)` -/
structure GridTrees (h : Heap) (lo hi : Nat) (rrs : List Ref) (cellss : List (List Obj)) : Prop where
  len : rrs.length = cellss.length
  sorted : rrs.Pairwise (fun a b => a < b)
  bound : ∀ (rr : Ref), rr ∈ rrs → lo ≤ rr ∧ rr < hi
  rowLen : ∀ (i : Nat) (rr : Ref) (row : List Obj), rrs[i]? = some rr → cellss[i]? = some row →
    (h.cellsOf rr).length = row.length
  den : ∀ (i : Nat) (rr : Ref) (row : List Obj) (j : Nat) (r : Ref) (o : Obj), rrs[i]? = some rr → cellss[i]? = some row →
    (h.cellsOf rr)[j]? = some r → row[j]? = some o → Denotes h r o
  range : ∀ (i : Nat) (rr : Ref) (j : Nat) (r : Ref) (k : Nat) (x : Ref), rrs[i]? = some rr → (h.cellsOf rr)[j]? = some r →
    h.chainAt k r = some x → lo ≤ x ∧ x < hi
  inj : ∀ (i1 i2 : Nat) (rr1 rr2 : Ref) (j1 j2 : Nat) (r1 r2 : Ref) (k1 k2 : Nat) (x : Ref),
    rrs[i1]? = some rr1 → rrs[i2]? = some rr2 → (h.cellsOf rr1)[j1]? = some r1 → (h.cellsOf rr2)[j2]? = some r2 →
    h.chainAt k1 r1 = some x → h.chainAt k2 r2 = some x → i1 = i2 ∧ j1 = j2 ∧ k1 = k2

theorem GridTrees.stable {h h' : Heap} {lo hi : Nat} {rrs : List Ref} {cellss : List (List Obj)}
    (t : GridTrees h lo hi rrs cellss) (e : Ext h h') (hhi : hi ≤ h.next) : GridTrees h' lo hi rrs cellss := by
  -- `h'` reads the same row lists and, from their cells, the same chains
  have hcell : ∀ (i : Nat) (rr : Ref), rrs[i]? = some rr → h'.cellsOf rr = h.cellsOf rr := fun i rr hi0 =>
    e.agree.cells rr (Nat.lt_of_lt_of_le (t.bound rr (List.mem_of_getElem? hi0)).2 hhi)
  have hc : ∀ (i : Nat) (rr : Ref) (j : Nat) (r : Ref), rrs[i]? = some rr → (h.cellsOf rr)[j]? = some r →
      ∀ k, h'.chainAt k r = h.chainAt k r := fun i rr j r hi0 hj k =>
    chainAt_ext e r k fun k x hx => Nat.lt_of_lt_of_le (t.range i rr j r k x hi0 hj hx).2 hhi
  refine ⟨t.len, t.sorted, t.bound, ?_, ?_, ?_, ?_⟩
  · intro i rr row hi0 hw; rw [hcell i rr hi0]; exact t.rowLen i rr row hi0 hw
  · intro i rr row j r o hi0 hw hj ho
    rw [hcell i rr hi0] at hj
    exact Denotes.stable e _ _ (t.den i rr row j r o hi0 hw hj ho)
  · intro i rr j r k x hi0 hj hx
    rw [hcell i rr hi0] at hj
    exact t.range i rr j r k x hi0 hj (hc i rr j r hi0 hj k ▸ hx)
  · intro i1 i2 rr1 rr2 j1 j2 r1 r2 k1 k2 x hi1 hi2 hj1 hj2 h1 h2
    rw [hcell i1 rr1 hi1] at hj1
    rw [hcell i2 rr2 hi2] at hj2
    exact t.inj i1 i2 rr1 rr2 j1 j2 r1 r2 k1 k2 x hi1 hi2 hj1 hj2 (hc i1 rr1 j1 r1 hi1 hj1 k1 ▸ h1)
      (hc i2 rr2 j2 r2 hi2 hj2 k2 ▸ h2)

theorem GridTrees.nil (h : Heap) (lo : Nat) : GridTrees h lo lo [] [] :=
  ⟨rfl, .nil, fun _ hr => (nomatch hr), fun _ _ _ hi => (nomatch hi), fun _ _ _ _ _ _ hi => (nomatch hi),
   fun _ _ _ _ _ _ hi => (nomatch hi), fun _ _ _ _ _ _ _ _ _ _ _ hi => (nomatch hi)⟩

/-- in the order in which `loadRow` allocates: the cells of a row, the row list `rr` itself, then the other rows -/
theorem GridTrees.cons {h : Heap} {lo hi : Nat} {rr : Ref} {row : List Obj} {rrs : List Ref} {cellss : List (List Obj)}
    (t : RowTrees h lo rr (h.cellsOf rr) row) (hlo : lo ≤ rr) (ts : GridTrees h (rr + 1) hi rrs cellss) (hhi : rr < hi) :
    GridTrees h lo hi (rr :: rrs) (row :: cellss) := by
  refine ⟨congrArg (· + 1) ts.len, List.pairwise_cons.mpr ⟨fun b hb => (ts.bound b hb).1, ts.sorted⟩,
    fun x hx => ?_, fun i x rw0 hi hw => ?_, fun i x rw0 j r o hi hw hj ho => ?_, fun i x j r k y hi hj hy => ?_,
    fun i1 i2 rr1 rr2 j1 j2 r1 r2 k1 k2 y hi1 hi2 hj1 hj2 h1 h2 => ?_⟩
  · rcases List.mem_cons.mp hx with rfl | hx
    · exact ⟨hlo, hhi⟩
    · have := ts.bound x hx; omegaR
  · cases i with
    | zero => cases hi; cases hw; exact t.len
    | succ i => exact ts.rowLen i x rw0 hi hw
  · cases i with
    | zero => cases hi; cases hw; exact t.den j r o hj ho
    | succ i => exact ts.den i x rw0 j r o hi hw hj ho
  · cases i with
    | zero => cases hi; have := t.range j r k y hj hy; omegaR
    | succ i => have := ts.range i x j r k y hi hj hy; omegaR
  · -- a row list holds the references of its cells' chains, at a slot and a depth
    have := sep_cons (F := fun rr (jk : Nat × Nat) x => ∃ r, (h.cellsOf rr)[jk.1]? = some r ∧ h.chainAt jk.2 r = some x) rr
      (fun _ x ⟨r, hj, hx⟩ => (t.range _ r _ x hj hx).2)
      (fun i b _ x hi ⟨r, hj, hx⟩ => Nat.le_of_succ_le (ts.range i b _ r _ x hi hj hx).1)
      (fun _ _ x ⟨r1, hj1, h1⟩ ⟨r2, hj2, h2⟩ => Prod.ext_iff.mpr (t.inj _ _ r1 r2 _ _ x hj1 hj2 h1 h2))
      (fun i1 i2 b1 b2 _ _ x hi1 hi2 ⟨r1, hj1, h1⟩ ⟨r2, hj2, h2⟩ =>
        (ts.inj i1 i2 b1 b2 _ _ r1 r2 _ _ x hi1 hi2 hj1 hj2 h1 h2).imp_right Prod.ext_iff.mpr)
      i1 i2 rr1 rr2 (j1, k1) (j2, k2) y hi1 hi2 ⟨r1, hj1, h1⟩ ⟨r2, hj2, h2⟩
    exact this.imp_right Prod.ext_iff.mp

theorem loadList_gridTrees (cellss : List (List Obj)) (h : Heap) :
    GridTrees (h.loadList Heap.loadRow cellss).2 h.next (h.loadList Heap.loadRow cellss).2.next
      (h.loadList Heap.loadRow cellss).1 cellss ∧ Alloc h (h.loadList Heap.loadRow cellss).2 := by
  induction cellss generalizing h with
  | nil => exact ⟨.nil h h.next, Alloc.refl h⟩
  | cons row rest ih =>
    simp only [Heap.loadList, Heap.loadRow]
    obtain ⟨t0, a0⟩ := loadList_rowTrees row h
    generalize h.loadList Heap.loadObj row = r at t0 a0
    have aC := (ext_newCells r.2 r.1).alloc rfl
    obtain ⟨t2, a2⟩ := ih (r.2.newCells r.1).2
    generalize (r.2.newCells r.1).2.loadList Heap.loadRow rest = rs at t2 a2
    have a02 := aC.trans a2
    -- the new row list `r.2.next` holds the cells just loaded
    have hcells : rs.2.cellsOf r.2.next = r.1 := (a2.ext.agree.cells _ (Nat.lt_succ_self _)).trans (if_pos rfl)
    exact ⟨.cons (hcells ▸ t0.stable a02.ext (Nat.le_refl _)) a0.ext.next t2 a2.ext.next, a0.trans a02⟩

/-- what `load` builds from `h`: the rows first, and on top of them the outer list, the transform, the held
object and the agent (the one place where `Heap.load` is unfolded) -/
structure LoadView (st : State) (h : Heap) (rows : List Ref × Heap) (s : HState) (h' : Heap) : Prop where
  grid : GridTrees h' h.next rows.2.next rows.1 st.grid.cells
  allocRows : Alloc h rows.2
  alloc : Alloc rows.2 h'
  outer : s.outer = rows.2.next
  hh : s.h = st.grid.h
  ww : s.w = st.grid.w
  rowsOf : h'.rowsOf s.outer = rows.1
  tfLo : rows.2.next < (h'.agentOf s.agent).1
  tf : h'.tfOf (h'.agentOf s.agent).1 = ⟨st.agent.pos, st.agent.o⟩
  held : Tree h' (rows.2.next + 2) (h'.agentOf s.agent).2 st.agent.held
  heldHi : (h'.agentOf s.agent).2 < s.agent
  agent : s.agent + 1 = h'.next

theorem load_view (st : State) (h : Heap) :
    LoadView st h (h.loadList Heap.loadRow st.grid.cells) (h.load st).1 (h.load st).2 := by
  obtain ⟨G, aR⟩ := loadList_gridTrees st.grid.cells h
  generalize hrows : h.loadList Heap.loadRow st.grid.cells = rows at G aR
  have aO := (ext_newRows rows.2 rows.1).alloc rfl
  have aT := (ext_newTf (rows.2.newRows rows.1).2 ⟨st.agent.pos, st.agent.o⟩).alloc rfl
  obtain ⟨tH, aH, nH⟩ := loadObj_tree st.agent.held ((rows.2.newRows rows.1).2.newTf ⟨st.agent.pos, st.agent.o⟩).2
  generalize hH : ((rows.2.newRows rows.1).2.newTf ⟨st.agent.pos, st.agent.o⟩).2.loadObj st.agent.held = held at tH aH nH
  have aA := (ext_newAgent held.2 (rows.2.next + 1, held.1)).alloc rfl
  have hdef : h.load st = (⟨rows.2.next, held.2.next, st.grid.h, st.grid.w⟩, (held.2.newAgent (rows.2.next + 1, held.1)).2) := by
    simp only [Heap.load, hrows, hH]; rfl
  have hag : (held.2.newAgent (rows.2.next + 1, held.1)).2.agentOf held.2.next = (rows.2.next + 1, held.1) := if_pos rfl
  have n4 : rows.2.next + 2 ≤ held.2.next := aH.ext.next
  have aTop := aO.trans (aT.trans (aH.trans aA))
  rw [hdef]
  refine ⟨G.stable aTop.ext (Nat.le_refl _), aR, aTop, rfl, rfl, rfl, ?_, ?_, ?_, ?_, ?_, rfl⟩
  · show (held.2.newAgent _).2.rowsOf rows.2.next = rows.1
    rw [(aT.trans (aH.trans aA)).ext.agree.rows rows.2.next (Nat.lt_succ_self _)]; exact if_pos rfl
  · show rows.2.next < ((held.2.newAgent _).2.agentOf held.2.next).1
    rw [hag]; exact Nat.lt_succ_self _
  · show (held.2.newAgent _).2.tfOf ((held.2.newAgent _).2.agentOf held.2.next).1 = _
    rw [hag]
    exact ((aH.trans aA).ext.agree.tf (rows.2.newRows rows.1).2.next (Nat.lt_succ_self _)).trans (if_pos rfl)
  · show Tree _ _ ((held.2.newAgent _).2.agentOf held.2.next).2 _
    rw [hag]; exact tH.stable aA.ext (by omegaR)
  · show ((held.2.newAgent _).2.agentOf held.2.next).2 < held.2.next
    rw [hag]; omegaR

theorem load_alloc (st : State) (h : Heap) : Alloc h (h.load st).2 :=
  (load_view st h).allocRows.trans (load_view st h).alloc

theorem GridTrees.rowDenotes {h : Heap} {lo hi : Nat} {rrs : List Ref} {cellss : List (List Obj)}
    (t : GridTrees h lo hi rrs cellss) (hhi : hi ≤ h.next) : All₂ (RowDenotes h) rrs cellss :=
  All₂.of_getElem? t.len fun i rr row hi0 hw =>
    ⟨Nat.lt_of_lt_of_le (t.bound rr (List.mem_of_getElem? hi0)).2 hhi,
     All₂.of_getElem? (t.rowLen i rr row hi0 hw) fun j r o hj ho => t.den i rr row j r o hi0 hw hj ho⟩

theorem load_abs (st : State) (h : Heap) : (h.load st).2.abs (h.load st).1 = st := by
  have v := load_view st h
  have G := v.grid.rowDenotes v.alloc.ext.next
  unfold Heap.abs Heap.absGrid Heap.absAgent
  rw [v.rowsOf, G.rows_abs boxFuel, v.hh, v.ww]
  simp only [v.tf, v.held.den.abs boxFuel]

theorem load_shaped (st : State) (wf : st.grid.WF) (h : Heap) : Shaped (h.load st).2 (h.load st).1 := by
  have v := load_view st h
  have G := v.grid
  refine ⟨by rw [v.rowsOf, G.len, wf.1, v.hh], fun row hrow => ?_⟩
  rw [v.rowsOf] at hrow
  obtain ⟨i, hi, rfl⟩ := List.getElem_of_mem hrow
  have hi2 : i < st.grid.cells.length := by rw [← G.len]; exact hi
  rw [G.rowLen i _ _ (List.getElem?_eq_getElem hi) (List.getElem?_eq_getElem hi2), v.ww]
  exact wf.2 _ (List.getElem_mem hi2)

theorem load_owned (st : State) (wf : st.grid.WF) (h : Heap) (hc : Closed h.next h) :
    OwnedFrom h.next (h.load st).2 (h.load st).1 ∧ h.next ≤ (h.load st).1.outer := by
  have v := load_view st h
  have sh := load_shaped st wf h
  have G := v.grid
  have n1 := v.allocRows.ext.next
  have hheld := (v.held.range 0 _ rfl).1
  have n2 := v.heldHi
  have n3 := v.agent
  have n4 := v.tfLo
  refine ⟨⟨by omegaR, by omegaR, sh.rowsLen, fun row hrow => ?_, by omegaR, by omegaR,
    (load_alloc st h).closed (Nat.le_refl _) hc⟩, by rw [v.outer]; exact n1⟩
  have hrow' := v.rowsOf ▸ hrow
  refine ⟨(G.bound _ hrow').1, sh.rows row hrow, fun c hc' => ?_⟩
  obtain ⟨i, hi, rfl⟩ := List.getElem_of_mem hrow'
  obtain ⟨j, hj, rfl⟩ := List.getElem_of_mem hc'
  exact (G.range i _ j _ 0 _ (List.getElem?_eq_getElem hi) (List.getElem?_eq_getElem hj) rfl).1

/-- **`pickle.loads` yields a separated representation** of the value it was given -/
theorem load_rep (st : State) (wf : st.grid.WF) (hin : st.grid.contains st.agent.pos = true) (h : Heap) :
    Rep (h.load st).2 (h.load st).1 st := by
  have v := load_view st h
  have sh := load_shaped st wf h
  generalize h.loadList Heap.loadRow st.grid.cells = rows at v
  generalize (h.load st).1 = s, (h.load st).2 = h' at v sh
  have G := v.grid
  have TH := v.held
  -- a cell, as the index structure sees it
  have locate : ∀ p : Pos, s.contains p = true → ∃ rr r : Ref, rows.1[p.y.toNat]? = some rr ∧
      (h'.cellsOf rr)[p.x.toNat]? = some r ∧ h'.cellRef s p = r := by
    intro p hp
    obtain ⟨hy, hx, _, e⟩ := sh.locate hp
    exact ⟨_, _, v.rowsOf ▸ List.getElem?_eq_getElem hy, List.getElem?_eq_getElem hx, e⟩
  refine ⟨⟨v.hh, v.ww, wf, ⟨sh.rowsLen, by rw [v.rowsOf]; exact G.sorted.imp Nat.ne_of_lt, sh.rows⟩, ?_, v.tf, TH.den,
    hin⟩, ?_⟩
  · intro p hp
    obtain ⟨rr, r, a1, a3, a5⟩ := locate p hp
    have hcg : st.grid.contains p = true := by
      rw [← hp]; simp only [HState.contains, Grid.contains, v.hh, v.ww]
    have hi2 : p.y.toNat < st.grid.cells.length := wf.1 ▸ (Grid.toNat_lt hcg).1
    have hj2 : p.x.toNat < (st.grid.cells[p.y.toNat]).length :=
      wf.2 _ (List.getElem_mem hi2) ▸ (Grid.toNat_lt hcg).2
    rw [a5, Grid.at_of_contains _ _ hcg]
    exact G.den p.y.toNat rr _ p.x.toNat r _ a1 (List.getElem?_eq_getElem hi2) a3 (by simp [Grid.cell, hi2, hj2])
  · -- separation: the cells' chains lie in `[h.next, rows.2.next)`, the hand's above
    have apart : ∀ p k k' x, s.contains p = true → h'.chains s (some p) k = some x → h'.chains s none k' ≠ some x := by
      intro p k k' x hp h1 h2
      obtain ⟨rr, r, a1, a3, a5⟩ := locate p hp
      have := TH.range k' x h2
      have := G.range p.y.toNat rr p.x.toNat r k x a1 a3 (a5 ▸ h1)
      omegaR
    intro l1 l2 k1 k2 x v1 v2 h1 h2
    cases l1 <;> cases l2
    · exact ⟨rfl, TH.inj k1 k2 x h1 h2⟩
    · exact absurd h1 (apart _ k2 k1 x v2 h2)
    · exact absurd h2 (apart _ k1 k2 x v1 h1)
    · obtain ⟨rr1, r1, a1, a3, a5⟩ := locate _ v1
      obtain ⟨rr2, r2, b1, b3, b5⟩ := locate _ v2
      obtain ⟨ei, ej, ek⟩ := G.inj _ _ rr1 rr2 _ _ r1 r2 k1 k2 x a1 b1 a3 b3 (a5 ▸ h1) (b5 ▸ h2)
      exact ⟨congrArg some (HState.pos_eq v1 v2 ei ej), ek⟩

end GV
