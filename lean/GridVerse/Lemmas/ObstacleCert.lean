/-
  Certificate checking for the shipped `dynamic_obstacles` tasks in the model's own terms
  (definitions only, over the model alone).
-/
import GridVerse.Model.Win
import GridVerse.Model.Reset
namespace GV

/-- the shipped dynamics and termination of the `dynamic_obstacles` tasks -/
def obsChain : List TransAtom := [.moveAgent, .turnAgent, .moveObstacles]
def obsStop : State → Action → State → Bool := stopOf (.any [.reachExit, .bumpObstacle, .bumpWall])

/-- the second half of `resetDynamicObstacles`: the state built from the picked indices -/
def obstacleState (s0 : State) (idx : List Nat) : Except PyErr State :=
  match drawAll s0.grid
      (idx.map fun i => ((floorPositions s0.grid).filter fun p => p != s0.agent.pos).getD i ⟨0, 0⟩) .obstacle with
  | .error e => .error e
  | .ok g => .ok { s0 with grid := g }

/-- a table row is a winning certificate for the layout it names -/
def certOK (s0 : State) (row : List Nat × (List Action × List Nat)) : Bool :=
  match obstacleState s0 row.1 with
  | .ok s => checkPlan obsChain obsStop goalExit s row.2.1 ⟨row.2.2, []⟩
  | .error _ => false

/-- the empty room the obstacles are put in (no draw is consumed when the agent is fixed) -/
def room (sh : Shape) : State :=
  match resetEmpty sh false false ⟨[], []⟩ with
  | .ok (s, _) => s
  | .error _ => default

end GV
