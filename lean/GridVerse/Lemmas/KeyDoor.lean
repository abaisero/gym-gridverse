/-
  The key-door room at its three stages (key on the floor / picked up, door locked / open) and the
  passability of its cells.
-/
import GridVerse.Lemmas.Plans
import GridVerse.Props.C13
namespace GV

theorem KDGrid.contains {sh : Shape} {xw yd : Int} {key : Option Pos} {dopen : Bool} {g : Grid}
    (k : KDGrid sh xw yd key dopen g) (q : Pos) (h1 : 0 ≤ q.y) (h2 : q.y < sh.h) (h3 : 0 ≤ q.x) (h4 : q.x < sh.w) :
    g.contains q = true :=
  Grid.contains_shape k.gh k.gw h1 h2 h3 h4

theorem kdCell_left {sh : Shape} {xw yd : Int} {key : Option Pos} {dopen : Bool} {q : Pos}
    (hw : xw ≤ sh.w - 3) (hq : LeftOf sh xw q) :
    kdCell sh xw yd key dopen q = if some q = key then .key .yellow else .floor := by
  obtain ⟨h1, h2, h3, h4⟩ := hq
  have n1 : q ≠ ⟨yd, xw⟩ := fun h => by rw [h] at h4; exact Int.lt_irrefl _ h4
  have n2 : ¬ (q.x = xw ∧ 1 ≤ q.y ∧ q.y ≤ sh.h - 2) := fun h => by omega
  have n3 : q ≠ ⟨sh.h - 2, sh.w - 2⟩ := fun h => by rw [h] at h4; simp only at h4; omega
  have n4 : ¬ onBorder sh.h.toNat sh.w.toNat q := by unfold onBorder; omega
  rw [kdCell, if_neg n1, if_neg n2, if_neg n3, if_neg n4]

theorem kdCell_right {sh : Shape} {xw yd : Int} {key : Option Pos} {dopen : Bool} {q : Pos}
    (hk : ∀ k, key = some k → k.x < xw) (hx : 2 ≤ xw) (hq : RightOf sh xw q) :
    kdCell sh xw yd key dopen q = if q = ⟨sh.h - 2, sh.w - 2⟩ then .exit .none else .floor := by
  obtain ⟨h1, h2, h3, h4⟩ := hq
  have n0 : ¬ some q = key := fun h => by have := hk q h.symm; omega
  have n1 : q ≠ ⟨yd, xw⟩ := fun h => by rw [h] at h3; exact Int.lt_irrefl _ h3
  have n2 : ¬ (q.x = xw ∧ 1 ≤ q.y ∧ q.y ≤ sh.h - 2) := fun h => by omega
  have n4 : ¬ onBorder sh.h.toNat sh.w.toNat q := by unfold onBorder; omega
  rw [kdCell, if_neg n0, if_neg n1, if_neg n2, if_neg n4]

theorem kdCell_door {sh : Shape} {xw yd : Int} {key : Option Pos} {dopen : Bool}
    (hk : ∀ k, key = some k → k.x < xw) :
    kdCell sh xw yd key dopen ⟨yd, xw⟩ = .door (if dopen then .open else .locked) .yellow := by
  have n0 : ¬ some (⟨yd, xw⟩ : Pos) = key := fun h => Int.lt_irrefl _ (hk _ h.symm)
  rw [kdCell, if_neg n0, if_pos rfl]

theorem kdCell_kind (sh : Shape) (xw yd : Int) (key : Option Pos) (dopen : Bool) (q : Pos) :
    ((kdCell sh xw yd key dopen q).isKind .key = true → some q = key) ∧
    ((kdCell sh xw yd key dopen q).isKind .door = true → q = ⟨yd, xw⟩) ∧
    ((kdCell sh xw yd key dopen q).isKind .exit = true → q = ⟨sh.h - 2, sh.w - 2⟩) := by
  unfold kdCell
  by_cases c0 : some q = key
  · rw [if_pos c0]; exact ⟨fun _ => c0, nofun, nofun⟩
  rw [if_neg c0]
  by_cases c1 : q = ⟨yd, xw⟩
  · rw [if_pos c1]; exact ⟨nofun, fun _ => c1, nofun⟩
  rw [if_neg c1]
  by_cases c2 : q.x = xw ∧ 1 ≤ q.y ∧ q.y ≤ sh.h - 2
  · rw [if_pos c2]; exact ⟨nofun, nofun, nofun⟩
  rw [if_neg c2]
  by_cases c3 : q = ⟨sh.h - 2, sh.w - 2⟩
  · rw [if_pos c3]; exact ⟨nofun, nofun, fun _ => c3⟩
  rw [if_neg c3]
  split <;> exact ⟨nofun, nofun, nofun⟩

theorem goalExit_iff (s : State) :
    goalExit s = (s.grid.contains s.agent.pos && (s.grid.at s.agent.pos).isKind .exit) := rfl

/-- the key-door room at one of its stages, with what `C13_keydoor_wf` says of its parameters: two rows
inside at least, the wall column leaves room on either side, the door is in it, the key (while on the
floor) lies left of it -/
structure KDRoom (sh : Shape) (xw yd : Int) (key : Option Pos) (dopen : Bool) (g : Grid) : Prop where
  grid : KDGrid sh xw yd key dopen g
  rows : 4 ≤ sh.h
  x1 : 2 ≤ xw
  x2 : xw ≤ sh.w - 3
  y1 : 1 ≤ yd
  y2 : yd ≤ sh.h - 2
  keyL : ∀ p, key = some p → LeftOf sh xw p

namespace KDRoom
variable {sh : Shape} {xw yd : Int} {key : Option Pos} {dopen : Bool}

theorem key_lt {g : Grid} (k : KDRoom sh xw yd key dopen g) (p : Pos) (hp : key = some p) : p.x < xw :=
  (k.keyL p hp).2.2.2

theorem exit_right {g : Grid} (k : KDRoom sh xw yd key dopen g) : RightOf sh xw ⟨sh.h - 2, sh.w - 2⟩ := by
  have ⟨_, _, _, x2, y1, y2, _⟩ := k
  unfold RightOf; simp only; omega

theorem inLeft {g : Grid} (k : KDRoom sh xw yd key dopen g) {c : Pos} (hc : LeftOf sh xw c) :
    g.contains c = true := by
  obtain ⟨h1, h2, h3, h4⟩ := hc
  have := k.x2
  exact k.grid.contains c (by omega) (by omega) (by omega) (by omega)

theorem inRight {g : Grid} (k : KDRoom sh xw yd key dopen g) {c : Pos} (hc : RightOf sh xw c) :
    g.contains c = true := by
  obtain ⟨h1, h2, h3, h4⟩ := hc
  have := k.x1
  exact k.grid.contains c (by omega) (by omega) (by omega) (by omega)

theorem inDoor {g : Grid} (k : KDRoom sh xw yd key dopen g) : g.contains ⟨yd, xw⟩ = true :=
  Grid.contains_inner k.grid.gh k.grid.gw k.y1 k.y2 (by have := k.x1; omega) (by have := k.x2; omega)

theorem at_left {g : Grid} (k : KDRoom sh xw yd key dopen g) {c : Pos} (hc : LeftOf sh xw c) :
    g.at c = if some c = key then .key .yellow else .floor := by
  rw [k.grid.cell c (k.inLeft hc), kdCell_left k.x2 hc]

theorem at_right {g : Grid} (k : KDRoom sh xw yd key dopen g) {c : Pos} (hc : RightOf sh xw c) :
    g.at c = if c = ⟨sh.h - 2, sh.w - 2⟩ then .exit .none else .floor := by
  rw [k.grid.cell c (k.inRight hc), kdCell_right k.key_lt k.x1 hc]

theorem at_door {g : Grid} (k : KDRoom sh xw yd key dopen g) :
    g.at ⟨yd, xw⟩ = .door (if dopen then .open else .locked) .yellow := by
  rw [k.grid.cell _ k.inDoor, kdCell_door k.key_lt]

theorem pass_left {s : State} (k : KDRoom sh xw yd key dopen s.grid) {rest : List TransAtom} (pr : PlainRest rest)
    {c : Pos} (hc : LeftOf sh xw c) : Pass rest (stopOf .reachExit) goalExit s c :=
  Free.passExit k.grid.wf ⟨k.inLeft hc, by rw [k.at_left hc]; split <;> rfl⟩ (pr.quiet _)

theorem pass_right {s : State} (k : KDRoom sh xw yd key dopen s.grid) {rest : List TransAtom} (pr : PlainRest rest)
    {c : Pos} (hc : RightOf sh xw c) : Pass rest (stopOf .reachExit) goalExit s c :=
  Free.passExit k.grid.wf ⟨k.inRight hc, by rw [k.at_right hc]; split <;> rfl⟩ (pr.quiet _)

theorem pass_door {s : State} (k : KDRoom sh xw yd key true s.grid) {rest : List TransAtom} (pr : PlainRest rest) :
    Pass rest (stopOf .reachExit) goalExit s ⟨yd, xw⟩ :=
  Free.passExit k.grid.wf ⟨k.inDoor, by rw [k.at_door]; rfl⟩ (pr.quiet _)

theorem noStop_left {s' : State} (k : KDRoom sh xw yd key dopen s'.grid) (hc : LeftOf sh xw s'.agent.pos)
    (s0 : State) (a : Action) : stopOf .reachExit s0 a s' = false :=
  stop_reachExit_false s0 a s' k.grid.wf (k.inLeft hc) (by rw [k.at_left hc]; split <;> rfl)

theorem go_face {s : State} (k : KDRoom sh xw yd key dopen s.grid) (hpos : LeftOf sh xw s.agent.pos)
    {c : Pos} (hc : LeftOf sh xw c) (t : Orient) (more : List Action) (d0 : DrawSt)
    (hmore : checkPlan kdChain (stopOf .reachExit) goalExit (withO (withPos s c) t) more d0 = true) :
    checkPlan kdChain (stopOf .reachExit) goalExit s
      (lPlan s.agent.o s.agent.pos c ++ (turnsTo s.agent.o t ++ more)) d0 = true := by
  unfold LeftOf at hpos
  have hc' : LeftOf sh xw c := hc
  unfold LeftOf at hc'
  refine lplan_rect [.turnAgent, .actuateDoor, .pickndrop] (stopOf .reachExit) goalExit s c _ d0 0 (sh.h - 1) 0 xw
    (fun c' h' => k.pass_left plainKD (by unfold LeftOf; omega)) (by omega) (by omega) ?_
  · exact turns_then (stopOf .reachExit) goalExit (withPos s c) t more d0
      (fun s0 a o' => k.noStop_left (s' := withO (withPos s c) o') hc s0 a) hmore

theorem pick {kp : Pos} {g : Grid} (k : KDRoom sh xw yd (some kp) dopen g) :
    KDRoom sh xw yd none dopen (g.setP kp .floor) := by
  have hkp := k.keyL kp rfl
  refine ⟨((k.grid.shows.setP (k.inLeft hkp) .floor).congr fun q _ => ?_).kd, k.rows, k.x1, k.x2, k.y1, k.y2, nofun⟩
  by_cases hqe : q = kp
  · rw [if_pos hqe, hqe, kdCell_left k.x2 hkp]; simp
  · have : ¬ some q = some kp := by simpa using hqe
    rw [if_neg hqe, kdCell, if_neg this]
    simp [kdCell]

theorem unlock {g : Grid} (k : KDRoom sh xw yd none false g) :
    KDRoom sh xw yd none true (g.setP ⟨yd, xw⟩ (.door .open .yellow)) := by
  refine ⟨((k.grid.shows.setP k.inDoor (.door .open .yellow)).congr fun q _ => ?_).kd, k.rows, k.x1, k.x2, k.y1, k.y2, nofun⟩
  by_cases hqe : q = ⟨yd, xw⟩ <;> simp [kdCell, hqe]

theorem find_key {kp : Pos} {g : Grid} (k : KDRoom sh xw yd (some kp) dopen g) (dflt : Pos) :
    (g.find fun o => o.isKind .key).headD dflt = kp :=
  k.grid.shows.headD_find (k.inLeft (k.keyL kp rfl)) (by simp [kdCell, Obj.isKind, Obj.kind])
    (fun q _ hq => Option.some.inj ((kdCell_kind sh xw yd (some kp) dopen q).1 hq)) dflt

theorem find_door {g : Grid} (k : KDRoom sh xw yd key dopen g) (dflt : Pos) :
    (g.find fun o => o.isKind .door).headD dflt = ⟨yd, xw⟩ :=
  k.grid.shows.headD_find k.inDoor (by rw [kdCell_door k.key_lt]; rfl)
    (fun q _ hq => (kdCell_kind sh xw yd key dopen q).2.1 hq) dflt

theorem find_exit {g : Grid} (k : KDRoom sh xw yd key dopen g) : firstExit g = ⟨sh.h - 2, sh.w - 2⟩ :=
  k.grid.shows.headD_find (k.inRight k.exit_right) (by rw [kdCell_right k.key_lt k.x1 k.exit_right, if_pos rfl]; rfl)
    (fun q _ hq => (kdCell_kind sh xw yd key dopen q).2.2 hq) _

end KDRoom
end GV
