/-
  The index map of a rotation and its inverse, counting as a double sum.
-/
import GridVerse.Lemmas.Grid
namespace GV

/-! ### reversal `i ↦ n - 1 - i` of an index range, the only arithmetic in a rotation -/

theorem rev_lt {n i : Nat} (h : i < n) : n - 1 - i < n := by omega
theorem rev_rev {n i : Nat} (h : i < n) : n - 1 - (n - 1 - i) = i := by omega
theorem natCast_rev {n i : Nat} (h : i < n) : ((n - 1 - i : Nat) : Int) = (n : Int) - 1 - i := by
  omega

/-- index map of a rotation: cell `(i, j)` of `rot o g` is cell `rotIdx o g i j` of `g` -/
def Grid.rotIdx : Orient → Grid → Nat → Nat → Nat × Nat
  | .F, _, i, j => (i, j)
  | .R, g, i, j => (j, g.w - 1 - i)
  | .B, g, i, j => (g.h - 1 - i, g.w - 1 - j)
  | .L, g, i, j => (g.h - 1 - j, i)

theorem Grid.rotIdx_inv (o : Orient) (g : Grid) (y x : Nat) (hy : y < g.h) (hx : x < g.w) :
    (Grid.rotIdx o.neg (Grid.rot o g) y x).1 < (Grid.rot o g).h ∧
    (Grid.rotIdx o.neg (Grid.rot o g) y x).2 < (Grid.rot o g).w ∧
    Grid.rotIdx o g (Grid.rotIdx o.neg (Grid.rot o g) y x).1 (Grid.rotIdx o.neg (Grid.rot o g) y x).2
      = (y, x) := by
  cases o <;>
    simp only [Orient.neg, Grid.rot, Grid.rotIdx, Grid.tab_h, Grid.tab_w, hy, hx, rev_lt, rev_rev,
      and_self]

theorem Grid.rot_neg_rot_shape (o : Orient) (g : Grid) :
    (Grid.rot o.neg (Grid.rot o g)).h = g.h ∧ (Grid.rot o.neg (Grid.rot o g)).w = g.w := by
  cases o <;> exact ⟨rfl, rfl⟩

/-- `rotIdx_inv` for the inverse rotation, read on the grid rotated back, which has the shape of `g`
(the index map only reads the shape) -/
theorem Grid.rotIdx_left_inv (o : Orient) (g : Grid) (i j : Nat) (hi : i < (Grid.rot o g).h)
    (hj : j < (Grid.rot o g).w) :
    (Grid.rotIdx o g i j).1 < g.h ∧ (Grid.rotIdx o g i j).2 < g.w ∧
    Grid.rotIdx o.neg (Grid.rot o g) (Grid.rotIdx o g i j).1 (Grid.rotIdx o g i j).2 = (i, j) := by
  have h := Grid.rotIdx_inv o.neg (Grid.rot o g) i j hi hj
  have e : Grid.rotIdx o.neg.neg (Grid.rot o.neg (Grid.rot o g)) = Grid.rotIdx o g := by
    cases o <;> rfl
  rwa [e, (Grid.rot_neg_rot_shape o g).1, (Grid.rot_neg_rot_shape o g).2] at h

def sumTo : Nat → (Nat → Nat) → Nat
  | 0, _ => 0
  | n+1, f => sumTo n f + f n

theorem sumTo_congr (n : Nat) (f g : Nat → Nat) (h : ∀ i, i < n → f i = g i) : sumTo n f = sumTo n g := by
  induction n with
  | zero => rfl
  | succ n ih =>
    simp only [sumTo]
    rw [ih (fun i hi => h i (by omega)), h n (by omega)]

theorem sumTo_shift (n : Nat) (f : Nat → Nat) : sumTo (n+1) f = f 0 + sumTo n (fun i => f (i+1)) := by
  induction n with
  | zero => simp [sumTo]
  | succ n ih =>
    rw [sumTo, ih]
    simp only [sumTo]; omega

theorem sumTo_rev (n : Nat) (f : Nat → Nat) : sumTo n (fun i => f (n - 1 - i)) = sumTo n f := by
  induction n generalizing f with
  | zero => rfl
  | succ n ih =>
    rw [sumTo_shift]
    simp only [sumTo]
    have : sumTo n (fun i => f (n + 1 - 1 - (i + 1))) = sumTo n (fun i => f (n - 1 - i)) := by
      apply sumTo_congr; intro i hi; congr 1; omega
    rw [this, ih, Nat.add_sub_cancel, Nat.sub_zero, Nat.add_comm]

theorem sumTo_add (n : Nat) (f g : Nat → Nat) : sumTo n (fun i => f i + g i) = sumTo n f + sumTo n g := by
  induction n with
  | zero => rfl
  | succ n ih => simp only [sumTo, ih]; omega

theorem sumTo_swap (h w : Nat) (f : Nat → Nat → Nat) :
    sumTo h (fun i => sumTo w (fun j => f i j)) = sumTo w (fun j => sumTo h (fun i => f i j)) := by
  induction h with
  | zero =>
    simp only [sumTo]
    induction w with
    | zero => rfl
    | succ w ih => simp only [sumTo]; omega
  | succ h ih =>
    simp only [sumTo]
    rw [ih, ← sumTo_add]

theorem length_filter_map_range (w : Nat) (f : Nat → Obj) (p : Obj → Bool) :
    (((List.range w).map f).filter p).length = sumTo w (fun j => ind p (f j)) := by
  induction w with
  | zero => rfl
  | succ w ih =>
    rw [List.range_succ, List.map_append, List.filter_append, List.length_append, ih]
    simp only [sumTo, List.map_cons, List.map_nil]
    cases hp : p (f w) <;> simp [List.filter, hp, ind]

theorem Grid.count_tab (h w : Nat) (f : Nat → Nat → Obj) (p : Obj → Bool) :
    (Grid.tab h w f).count p = sumTo h (fun i => sumTo w (fun j => ind p (f i j))) := by
  unfold Grid.count Grid.flat Grid.tab
  simp only
  induction h with
  | zero => rfl
  | succ h ih =>
    rw [List.range_succ, List.map_append, List.flatten_append, List.filter_append,
      List.length_append, ih]
    simp only [sumTo, List.map_cons, List.map_nil, List.flatten_cons, List.flatten_nil,
      List.append_nil]
    rw [length_filter_map_range]

theorem Grid.count_eq_sum (g : Grid) (hg : g.WF) (p : Obj → Bool) :
    g.count p = sumTo g.h (fun i => sumTo g.w (fun j => ind p (g.cell i j))) := by
  conv => lhs; rw [Grid.eq_tab g hg]
  exact Grid.count_tab _ _ _ _

end GV
