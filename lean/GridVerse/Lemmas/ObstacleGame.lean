/-
  The `dynamic_obstacles` rooms as a sparse game: the agent's cell and the obstacles' cells, by natural
  coordinates, and `roomPlan`, which replays a certificate on that.  The definitions (with the lemmas
  that say what a cell test means and that forcing changes nothing) over the model alone: the kernel
  re-runs the certificate tables on them (Props/C14ObstaclesCk.lean), and that must not be redone when
  a table regenerated from /repo (`Generated/`) changes.  What acceptance by the game means for the model is
  Lemmas/ObstacleRoom.lean.  The point of the game is the cost of the re-run: a step of it is a handful
  of comparisons of numerals, a step of the model on a list-of-lists grid scans every cell with `Int`
  comparisons.
-/
import GridVerse.Model.Win
namespace GV

/-- a cell by natural (row, column) -/
abbrev Cell := Nat × Nat

def cellPos (c : Cell) : Pos := ⟨c.1, c.2⟩

theorem cellPos_inj {c c' : Cell} : cellPos c = cellPos c' ↔ c = c' := by
  simp only [cellPos, Pos.mk.injEq, Prod.ext_iff]
  omega

/-- up, right, down, left: the order of `manhattanBoundary _ 1` -/
def nbrCells (c : Cell) : List Cell := [(c.1 - 1, c.2), (c.1, c.2 + 1), (c.1 + 1, c.2), (c.1, c.2 - 1)]

/-- strictly inside the wall ring of an `h × w` room -/
def innerCell (h w : Nat) (c : Cell) : Bool :=
  decide (1 ≤ c.1) && decide (c.1 + 2 ≤ h) && decide (1 ≤ c.2) && decide (c.2 + 2 ≤ w)

theorem innerCell_iff {h w : Nat} {c : Cell} :
    innerCell h w c = true ↔ 1 ≤ c.1 ∧ c.1 + 2 ≤ h ∧ 1 ≤ c.2 ∧ c.2 + 2 ≤ w := by
  simp only [innerCell, Bool.and_eq_true, decide_eq_true_eq, and_assoc]

def exitCell (h w : Nat) : Cell := (h - 2, w - 2)

/-- where an obstacle may be -/
def vacantCell (h w : Nat) (c : Cell) : Bool := innerCell h w c && c != exitCell h w

theorem vacantCell_iff {h w : Nat} {c : Cell} :
    vacantCell h w c = true ↔ innerCell h w c = true ∧ c ≠ exitCell h w := by
  simp only [vacantCell, Bool.and_eq_true, bne_iff_ne]

/-- … and free for an obstacle to move to (the agent's cell counts as floor) -/
def freeCell (h w : Nat) (obs : List Cell) (c : Cell) : Bool := vacantCell h w c && !obs.contains c

/-! ### the game

The kernel evaluates lazily: a state handed on unevaluated is recomputed at every use, and after a few
steps each coordinate is a tower of pending updates.  `forceCells` rebuilds a list of cells from
evaluated numerals before it is handed on (continuation-passing, since a `match` is the only thing that
forces). -/

def forceNat (n : Nat) (k : Nat → Bool) : Bool :=
  match n with
  | 0 => k 0
  | m + 1 => k (Nat.succ m)

def forceCell (c : Cell) (k : Cell → Bool) : Bool := forceNat c.1 fun y => forceNat c.2 fun x => k (y, x)

def forceCells : List Cell → (List Cell → Bool) → Bool
  | [], k => k []
  | c :: cs, k => forceCell c fun c => forceCells cs fun cs => k (c :: cs)

@[simp] theorem forceNat_eq (n : Nat) (k : Nat → Bool) : forceNat n k = k n := by
  cases n <;> rfl

@[simp] theorem forceCell_eq (c : Cell) (k : Cell → Bool) : forceCell c k = k c := by
  simp [forceCell]

theorem forceCells_eq (l : List Cell) (k : List Cell → Bool) : forceCells l k = k l := by
  induction l generalizing k with
  | nil => rfl
  | cons c cs ih => simp [forceCells, ih]

/-- `drawChoice` on a bare answer list -/
def pick (n : Nat) (ds : List Nat) : Option Nat × List Nat :=
  if n = 0 then (none, ds) else
    match ds with
    | [] => (some 0, [])
    | a :: as => (some (a % n), as)

/-- the sweep of `move_obstacles` over the cells `ps`, on the set `obs` of obstacle cells -/
def roomSweep (h w : Nat) : List Cell → List Cell → List Nat → (List Cell → List Nat → Bool) → Bool
  | [], obs, ds, k => k obs ds
  | p :: ps, obs, ds, k =>
    let ns := (nbrCells p).filter (freeCell h w obs)
    match pick ns.length ds with
    | (none, ds) => roomSweep h w ps obs ds k
    | (some i, ds) => forceCells (ns.getD i p :: obs.filter (· != p)) fun obs => roomSweep h w ps obs ds k

def cellLt (a b : Cell) : Bool := decide (a.1 < b.1) || (a.1 == b.1 && decide (a.2 < b.2))

def insertCell (c : Cell) : List Cell → List Cell
  | [] => [c]
  | x :: xs => if cellLt c x then c :: x :: xs else x :: insertCell c xs

def sortCells (l : List Cell) : List Cell := l.foldr insertCell []

/-- row-major order, checked (so that nothing has to be proved about the sorting) -/
def sortedCells : List Cell → Bool
  | [] => true
  | a :: r => r.all (cellLt a) && sortedCells r

/-- the agent heads `R` (down the rows are `moveR`, along them `moveF`) and only ever moves -/
def stepCell (c : Cell) : Action → Option Cell
  | .moveF => some (c.1, c.2 + 1)
  | .moveB => some (c.1, c.2 - 1)
  | .moveL => some (c.1 - 1, c.2)
  | .moveR => some (c.1 + 1, c.2)
  | _ => none

/-- `checkPlan obsChain obsStop goalExit` on the sparse state: agent on `a`, obstacles on `obs` -/
def roomPlan (h w : Nat) : Cell → List Cell → List Action → List Nat → Bool
  | a, _, [], _ => a == exitCell h w
  | a, obs, act :: acts, ds =>
    a == exitCell h w ||
    match stepCell a act with
    | none => false
    | some a' =>
      forceCell a' fun a' =>
      innerCell h w a' &&
      forceCells (sortCells obs) fun ord =>
      sortedCells ord &&
      roomSweep h w ord ord ds fun obs' ds' =>
      (a' == exitCell h w || !obs'.contains a') && roomPlan h w a' obs' acts ds'

/-- the cells `resetDynamicObstacles` picks from, in its order -/
def roomVacant (h w : Nat) : List Cell :=
  ((List.range h).flatMap fun i => (List.range w).map fun j => (i, j)).filter fun c =>
    vacantCell h w c && c != (1, 1)

/-- a certificate row replayed on the sparse room -/
def roomCertOK (h w : Nat) (row : List Nat × (List Action × List Nat)) : Bool :=
  forceCells (row.1.map fun i => (roomVacant h w).getD i (0, 0)) fun obs =>
  obs.all (vacantCell h w) && roomPlan h w (1, 1) obs row.2.1 row.2.2

end GV
