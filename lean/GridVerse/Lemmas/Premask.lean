/-
  The slice → rotate pipeline of `from_visibility`: cell (i, j) of the pre-mask view is the world
  cell at `transform * Position(ymin + i, xmin + j)` (Hidden outside the grid), whence the
  observation in closed form (`fromVisibility_eq` with `applyMask_premask`).
-/
import GridVerse.Model.Visibility
import GridVerse.Props.C18
namespace GV

theorem Grid.subgrid_cell (g : Grid) (a : Area) (i j : Nat) (hi : i < a.height) (hj : j < a.width) :
    (g.subgrid a).cell i j = g.at ⟨a.ymin + i, a.xmin + j⟩ :=
  Grid.cell_tab _ _ _ i j hi hj

theorem Area.height_cast (a : Area) (ha : a.WF) :
    (a.height : Int) = a.ymax - a.ymin + 1 ∧ (a.width : Int) = a.xmax - a.xmin + 1 := by
  obtain ⟨h1, h2⟩ := ha
  simp only [Area.height, Area.width]; omega

theorem premask_shape (s : State) (a : Area) :
    (premask s a).h = a.height ∧ (premask s a).w = a.width := by
  unfold premask Transform.actArea Agent.transform
  cases s.agent.o <;>
    simp only [Grid.rot, Grid.subgrid, Grid.tab_h, Grid.tab_w, Orient.actArea, Area.shift,
      Area.height, Area.width, Int.add_sub_add_left, neg_sub_neg, Int.neg_sub, and_self]

theorem premask_WF (s : State) (a : Area) : (premask s a).WF :=
  C18_rot_WF _ _ (Grid.tab_WF _ _ _)

/-- the world position shown at view index (i, j) -/
def viewWorld (s : State) (a : Area) (i j : Nat) : Pos :=
  s.agent.transform.act ⟨a.ymin + i, a.xmin + j⟩

theorem premask_cell (s : State) (a : Area) (ha : a.WF) (i j : Nat)
    (hi : i < a.height) (hj : j < a.width) :
    (premask s a).cell i j = s.grid.at (s.agent.transform.act ⟨a.ymin + i, a.xmin + j⟩) := by
  obtain ⟨hh, hw⟩ := premask_shape s a
  unfold premask at hh hw ⊢
  obtain ⟨hy, hx, -⟩ := Grid.rotIdx_left_inv _ _ i j (hh ▸ hi) (hw ▸ hj)
  rw [C18_rot_cell _ _ _ _ (hh ▸ hi) (hw ▸ hj), Grid.subgrid_cell _ _ _ _ hy hx]
  apply congrArg
  -- the slice's corner plus the rotated index is the pose applied to the view's corner plus the
  -- index; the slice's shape and the reversals are rewritten first, so that only linear
  -- arithmetic is left
  clear hy hx hh hw
  obtain ⟨h1, h2⟩ := Area.height_cast a ha
  simp only [Area.height, Area.width] at hi hj h1 h2
  unfold Transform.actArea Transform.act Agent.transform
  cases s.agent.o <;>
    simp only [Grid.rotIdx, Grid.subgrid, Grid.tab_h, Grid.tab_w, Orient.actArea,
      Orient.act, Area.shift, Area.height, Area.width, Pos.add, Pos.ext_iff', Int.add_sub_add_left,
      neg_sub_neg, Int.neg_sub, natCast_rev hi, natCast_rev hj, h1, h2, Int.add_assoc, true_and,
      and_true] <;>
    omega

theorem premask_eq_tab (s : State) (a : Area) (ha : a.WF) :
    premask s a = Grid.tab a.height a.width fun i j => s.grid.at (viewWorld s a i j) := by
  obtain ⟨hh, hw⟩ := premask_shape s a
  rw [Grid.eq_tab _ (premask_WF s a), hh, hw]
  exact Grid.tab_congr _ _ _ _ fun i j hi hj => premask_cell s a ha i j hi hj

theorem fromVisibility_eq (V : Grid → Pos → Except PyErr Mask) (s : State) (a : Area) :
    fromVisibility V s a = (V (premask s a) (povPos a)).map fun m =>
      ⟨applyMask (premask s a) m, ⟨povPos a, .F, s.agent.held⟩⟩ := by
  unfold fromVisibility
  dsimp only
  cases V (premask s a) (povPos a) <;> rfl

theorem applyMask_premask (s : State) (a : Area) (ha : a.WF) (m : Mask) :
    applyMask (premask s a) m = Grid.tab a.height a.width fun i j =>
      if m ⟨(i : Int), (j : Int)⟩ then s.grid.at (viewWorld s a i j) else .hidden := by
  rw [premask_eq_tab s a ha]
  exact Grid.tab_congr _ _ _ _ fun i j hi hj => by
    rw [Grid.cell_tab _ _ _ _ _ (show i < a.height from hi) (show j < a.width from hj)]

theorem fromVisibility_ok {V : Grid → Pos → Except PyErr Mask} {s : State} {a : Area} {o : Obs}
    (h : fromVisibility V s a = .ok o) : ∃ m, V (premask s a) (povPos a) = .ok m ∧
      o = ⟨applyMask (premask s a) m, ⟨povPos a, .F, s.agent.held⟩⟩ := by
  rw [fromVisibility_eq] at h
  cases hV : V (premask s a) (povPos a) with
  | error e => rw [hV] at h; cases h
  | ok m => rw [hV] at h; cases h; exact ⟨m, rfl, rfl⟩

theorem applyMask_cell (g : Grid) (m : Mask) (i j : Nat) (hi : i < g.h) (hj : j < g.w) :
    (applyMask g m).cell i j = if m ⟨(i : Int), (j : Int)⟩ then g.cell i j else .hidden :=
  Grid.cell_tab _ _ _ i j hi hj

@[simp] theorem applyMask_h (g : Grid) (m : Mask) : (applyMask g m).h = g.h := rfl
@[simp] theorem applyMask_w (g : Grid) (m : Mask) : (applyMask g m).w = g.w := rfl

end GV
