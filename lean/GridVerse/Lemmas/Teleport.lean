/-
  The teleport task: plans that end with a step onto a telepod, and what that step does.
-/
import GridVerse.Lemmas.Walk
import GridVerse.Lemmas.Atoms
namespace GV

/-! ### plans whose last step lands somewhere else (on a telepod) -/

/-- the step onto the cell `q` leads to one state `s'`, whichever neighbour it is taken from; it does not
lose, and `more` wins from `s'` -/
inductive Lands (rest : List TransAtom) (stop : State → Action → State → Bool) (goal : State → Bool)
    (s : State) (q : Pos) (more : List Action) (d : DrawSt) : Prop
  | intro (s' : State) (d' : DrawSt)
      (step : ∀ c dir, c.add (Pos.ofOrient dir) = q →
        runChain (.moveAgent :: rest) (withPos s c) (moveToward s.agent.o dir) d = .ok (s', d'))
      (ok : ∀ s0 a, goal s' = true ∨ stop s0 a s' = false)
      (wins : checkPlan (.moveAgent :: rest) stop goal s' more d' = true)

theorem Lands.withPos {rest : List TransAtom} {stop : State → Action → State → Bool} {goal : State → Bool}
    {s : State} {q : Pos} {more : List Action} {d : DrawSt} (l : Lands rest stop goal s q more d) (c0 : Pos) :
    Lands rest stop goal (withPos s c0) q more d := by
  obtain ⟨s', d', step, ok, wins⟩ := l
  exact ⟨s', d', step, ok, wins⟩

theorem walk_land (rest : List TransAtom) (stop : State → Action → State → Bool) (goal : State → Bool)
    (dir : Orient) (n : Nat) (s : State) (q : Pos) (more : List Action) (d : DrawSt)
    (hpass : ∀ k, 1 ≤ k → k ≤ n → Pass rest stop goal s (shift s.agent.pos dir k))
    (hq : shift s.agent.pos dir (n + 1) = q) (l : Lands rest stop goal s q more d) :
    checkPlan (.moveAgent :: rest) stop goal s (walk s.agent.o dir (n + 1) ++ more) d = true := by
  obtain ⟨s', d', step, ok, wins⟩ := l
  have hw : walk s.agent.o dir (n + 1) = walk s.agent.o dir n ++ [moveToward s.agent.o dir] := by
    simp only [walk, List.replicate_succ']
  rw [hw, List.append_assoc]
  apply walk_then rest stop goal dir n s _ d hpass
  exact checkPlan_cons _ _ _ _ s' _ _ d d' (step _ dir (by rw [← shift_succ, hq])) (ok _ _) wins

theorem vwalk_land (rest : List TransAtom) (stop : State → Action → State → Bool) (goal : State → Bool)
    (s : State) (ty : Int) (more : List Action) (d : DrawSt) (hne : ty ≠ s.agent.pos.y)
    (hv : ∀ y, Btw s.agent.pos.y ty y → y ≠ ty → Pass rest stop goal s ⟨y, s.agent.pos.x⟩)
    (l : Lands rest stop goal s ⟨ty, s.agent.pos.x⟩ more d) :
    checkPlan (.moveAgent :: rest) stop goal s
      (walk s.agent.o (if ty < s.agent.pos.y then .F else .B) (ty - s.agent.pos.y).natAbs ++ more) d = true := by
  obtain ⟨n, hn⟩ : ∃ n, (ty - s.agent.pos.y).natAbs = n + 1 := ⟨(ty - s.agent.pos.y).natAbs - 1, by omega⟩
  rw [hn]
  refine walk_land rest stop goal _ n s _ more d (fun k hk1 hk2 => ?_) ?_ l
  · obtain ⟨y, e, hb, he⟩ := shift_vert s.agent.pos ty k (by omega)
    rw [e]; exact hv y (hb hk1) (fun h => by have := he.mp h; omega)
  · obtain ⟨y, e, _, he⟩ := shift_vert s.agent.pos ty (n + 1) (by omega)
    rw [e, he.mpr hn.symm]

theorem hwalk_land (rest : List TransAtom) (stop : State → Action → State → Bool) (goal : State → Bool)
    (s : State) (tx : Int) (more : List Action) (d : DrawSt) (hne : tx ≠ s.agent.pos.x)
    (hh : ∀ x, Btw s.agent.pos.x tx x → x ≠ tx → Pass rest stop goal s ⟨s.agent.pos.y, x⟩)
    (l : Lands rest stop goal s ⟨s.agent.pos.y, tx⟩ more d) :
    checkPlan (.moveAgent :: rest) stop goal s
      (walk s.agent.o (if tx < s.agent.pos.x then .L else .R) (tx - s.agent.pos.x).natAbs ++ more) d = true := by
  obtain ⟨n, hn⟩ : ∃ n, (tx - s.agent.pos.x).natAbs = n + 1 := ⟨(tx - s.agent.pos.x).natAbs - 1, by omega⟩
  rw [hn]
  refine walk_land rest stop goal _ n s _ more d (fun k hk1 hk2 => ?_) ?_ l
  · obtain ⟨x, e, hb, he⟩ := shift_horiz s.agent.pos tx k (by omega)
    rw [e]; exact hh x (hb hk1) (fun h => by have := he.mp h; omega)
  · obtain ⟨x, e, _, he⟩ := shift_horiz s.agent.pos tx (n + 1) (by omega)
    rw [e, he.mpr hn.symm]

theorem lplan_land (rest : List TransAtom) (stop : State → Action → State → Bool) (goal : State → Bool)
    (s : State) (q : Pos) (more : List Action) (d : DrawSt) (hne : q ≠ s.agent.pos)
    (hv : ∀ y, Btw s.agent.pos.y q.y y → (⟨y, s.agent.pos.x⟩ : Pos) ≠ q → Pass rest stop goal s ⟨y, s.agent.pos.x⟩)
    (hh : ∀ x, Btw s.agent.pos.x q.x x → x ≠ q.x → Pass rest stop goal s ⟨q.y, x⟩)
    (l : Lands rest stop goal s q more d) :
    checkPlan (.moveAgent :: rest) stop goal s (lPlan s.agent.o s.agent.pos q ++ more) d = true := by
  unfold lPlan
  rw [List.append_assoc]
  by_cases hx : q.x = s.agent.pos.x
  · -- `q` is in the agent's column: the row leg is empty
    have hy : q.y ≠ s.agent.pos.y := fun h => hne ((Pos.ext_iff' _ _).mpr ⟨h, hx⟩)
    have h0 : (q.x - s.agent.pos.x).natAbs = 0 := by omega
    have hq : (⟨q.y, s.agent.pos.x⟩ : Pos) = q := (Pos.ext_iff' _ _).mpr ⟨rfl, hx.symm⟩
    rw [h0]
    simp only [walk, List.replicate_zero, List.nil_append]
    exact vwalk_land rest stop goal s q.y more d hy
      (fun y hy' hney => hv y hy' (fun h => hney (by rw [← h]))) (hq ▸ l)
  · -- the column leg in full, then the row leg
    exact vwalk_then rest stop goal s q.y _ d (fun y hy => hv y hy (fun h => hx (by rw [← h])))
      (hwalk_land rest stop goal (withPos s ⟨q.y, s.agent.pos.x⟩) q.x more d hx
        (fun x hx' hnex => (hh x hx' hnex).withPos _) (l.withPos _))

/-- the dynamics of the teleport task (`.moveAgent :: [.turnAgent, .teleport]` for the walk lemmas) -/
def tpChain : List TransAtom := [.moveAgent, .turnAgent, .teleport]

theorem step_onto_telepod (s : State) (dir : Orient) (d : DrawSt) (t other : Pos) (c : Color) (wf : s.grid.WF)
    (ht : s.agent.pos.add (Pos.ofOrient dir) = t) (hc : s.grid.contains t = true)
    (hat : s.grid.at t = .telepod c)
    (htargets : teleportTargets (withPos s t) c = [other]) :
    runChain tpChain s (moveToward s.agent.o dir) d = .ok (withPos s other, (drawChoice 1 d).2) := by
  have hmv := moveAgent_toward s dir (by rw [ht]; exact hc) (by rw [ht, hat]; rfl)
  rw [ht] at hmv
  have hget : (withPos s t).grid.pyGet (withPos s t).agent.pos = .ok (.telepod c) := by
    rw [withPos_grid, withPos_pos, Grid.pyGet_of_contains _ wf _ hc, hat]
  -- the draw among one partner returns it
  obtain ⟨i, d', hd', hi⟩ := drawChoice_pos 1 (by omega) d
  obtain rfl : i = 0 := by omega
  simp only [tpChain, runChain, TransAtom.run, hmv, turnAgent_of_isMove _ (moveToward_isMove _ _),
    teleport_of_get hget, Obj.color, htargets, List.length_singleton, hd']
  rfl

end GV
