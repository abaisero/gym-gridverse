/-
  `move_obstacles`: what one turn does, the specification `Sweep` of the whole sweep, and what every
  sweep preserves.
-/
import GridVerse.Model.Transition
import GridVerse.Lemmas.Draw
import GridVerse.Lemmas.Count
namespace GV

/-- the free neighbours an obstacle at `p` can move to -/
def freeNbrs (g : Grid) (p : Pos) : List Pos :=
  (manhattanBoundary p 1).filter fun q => g.contains q && (g.at q).isKind .floor

theorem mem_freeNbrs (g : Grid) (p n : Pos) :
    n ∈ freeNbrs g p ↔ n ∈ manhattanBoundary p 1 ∧ g.contains n = true ∧ g.at n = .floor := by
  simp only [freeNbrs, List.mem_filter, Bool.and_eq_true, isKind_floor]

theorem mem_boundary1 (p n : Pos) :
    n ∈ manhattanBoundary p 1 ↔
      n = ⟨p.y - 1, p.x⟩ ∨ n = ⟨p.y, p.x + 1⟩ ∨ n = ⟨p.y + 1, p.x⟩ ∨ n = ⟨p.y, p.x - 1⟩ := by
  simp [manhattanBoundary, List.range_succ]

/-- one obstacle's turn, given what `rng.choice` answers (`generalizing := false`: otherwise the
motive of the `match` abstracts `h` and the equation no longer rewrites) -/
theorem obstacleStep_of_draw {g : Grid} {p : Pos} {d d' : DrawSt} {oi : Option Nat}
    (h : drawChoice (freeNbrs g p).length d = (oi, d')) :
    obstacleStep g p d =
      ((match (generalizing := false) oi with
        | none => g
        | some i => g.swap p ((freeNbrs g p).getD i p)), d') := by
  unfold freeNbrs at h ⊢
  unfold obstacleStep
  simp only [h]
  cases oi <;> rfl

theorem obstacleStep_stay {g : Grid} {p : Pos} (h : freeNbrs g p = []) (d : DrawSt) :
    obstacleStep g p d = (g, d.note (.choice 0)) :=
  obstacleStep_of_draw (oi := none) (by rw [h, List.length_nil, drawChoice_zero])

theorem obstacleStep_cases (g : Grid) (p : Pos) (d : DrawSt) :
    (freeNbrs g p = [] ∧ (obstacleStep g p d).1 = g) ∨
    (∃ n, n ∈ freeNbrs g p ∧ (obstacleStep g p d).1 = g.swap p n) := by
  by_cases hn : freeNbrs g p = []
  · exact Or.inl ⟨hn, by rw [obstacleStep_stay hn]⟩
  · obtain ⟨i, d', hc, hmem⟩ := drawChoice_mem (freeNbrs g p) p (List.length_pos_iff.mpr hn) d
    exact Or.inr ⟨_, hmem, by rw [obstacleStep_of_draw hc]⟩

/-- the sweep of `move_obstacles` over a list of positions -/
def obstaclesFold (ps : List Pos) (g : Grid) (d : DrawSt) : Grid × DrawSt :=
  ps.foldl (fun (acc : Grid × DrawSt) p => obstacleStep acc.1 p acc.2) (g, d)

theorem moveObstacles_eq (s : State) (d : DrawSt) :
    moveObstacles s d =
      ({ s with grid := (obstaclesFold (s.grid.find fun o => o.isKind .obstacle) s.grid d).1 },
       (obstaclesFold (s.grid.find fun o => o.isKind .obstacle) s.grid d).2) := rfl

theorem obstaclesFold_cons (p : Pos) (ps : List Pos) (g : Grid) (d : DrawSt) :
    obstaclesFold (p :: ps) g d = obstaclesFold ps (obstacleStep g p d).1 (obstacleStep g p d).2 := by
  simp only [obstaclesFold, List.foldl_cons]

/-- The specification of one sweep of `move_obstacles` over the positions collected at the start:
at its turn an obstacle stays only if it has no free neighbour, otherwise it is swapped with one
of its free (in-grid, floor *now*) four-neighbours. -/
inductive Sweep : List Pos → Grid → Grid → Prop
  | nil (g : Grid) : Sweep [] g g
  | stay (p : Pos) (ps : List Pos) (g g' : Grid) :
      freeNbrs g p = [] → Sweep ps g g' → Sweep (p :: ps) g g'
  | move (p n : Pos) (ps : List Pos) (g g' : Grid) :
      n ∈ freeNbrs g p → Sweep ps (g.swap p n) g' → Sweep (p :: ps) g g'

theorem obstaclesFold_sweep (ps : List Pos) (g : Grid) (d : DrawSt) :
    Sweep ps g (obstaclesFold ps g d).1 := by
  induction ps generalizing g d with
  | nil => exact Sweep.nil g
  | cons p ps ih =>
    rw [obstaclesFold_cons]
    rcases obstacleStep_cases g p d with ⟨hnone, hstep⟩ | ⟨n, hn, hstep⟩ <;> rw [hstep]
    · exact Sweep.stay p ps g _ hnone (ih g _)
    · exact Sweep.move p n ps g _ hn (ih (g.swap p n) _)

theorem swap_free {g : Grid} (hg : g.WF) {p n : Pos} (hp : g.contains p = true ∧ g.at p = .obstacle)
    (hn : n ∈ freeNbrs g p) (r : Pos) :
    (g.swap p n).at r = if r = n then .obstacle else if r = p then .floor else g.at r := by
  rw [mem_freeNbrs] at hn
  rw [Grid.at_swap g hg p n hp.1 hn.2.1, hp.2, hn.2.2]

/-- after the obstacle at `p` has moved to its free neighbour `n`, the positions still to be swept
are neither `p` nor `n` (which held floor), so they still hold obstacles -/
theorem swap_free_rest {g : Grid} (hg : g.WF) {p n : Pos} {ps : List Pos} (hnd : (p :: ps).Nodup)
    (hobs : ∀ q ∈ p :: ps, g.contains q = true ∧ g.at q = .obstacle) (hn : n ∈ freeNbrs g p) :
    ∀ q ∈ ps, (g.swap p n).contains q = true ∧ (g.swap p n).at q = .obstacle := by
  intro q hq
  have hq' := hobs q (List.mem_cons_of_mem _ hq)
  have hqn : q ≠ n := by
    intro e; subst e; rw [((mem_freeNbrs g p q).mp hn).2.2] at hq'; cases hq'.2
  have hqp : q ≠ p := by intro e; subst e; exact (List.nodup_cons.mp hnd).1 hq
  refine ⟨by rw [Grid.contains_swap]; exact hq'.1, ?_⟩
  rw [swap_free hg (hobs p List.mem_cons_self) hn, if_neg hqn, if_neg hqp]
  exact hq'.2

/-- What moving obstacles leaves of a grid: well-formedness, shape and every count; and each cell
is unchanged or went floor → obstacle or obstacle → floor.  A preorder that contains every move of
an obstacle to a free neighbour, hence every sweep. -/
structure Swept (g g' : Grid) : Prop where
  wf : g'.WF
  h : g'.h = g.h
  w : g'.w = g.w
  count : ∀ pr, g'.count pr = g.count pr
  cell : ∀ q, g'.at q = g.at q ∨ (g.at q = .floor ∧ g'.at q = .obstacle) ∨
    (g.at q = .obstacle ∧ g'.at q = .floor)

theorem Swept.refl {g : Grid} (hg : g.WF) : Swept g g :=
  ⟨hg, rfl, rfl, fun _ => rfl, fun _ => Or.inl rfl⟩

theorem Swept.trans {g g' g'' : Grid} (a : Swept g g') (b : Swept g' g'') : Swept g g'' := by
  refine ⟨b.wf, b.h.trans a.h, b.w.trans a.w, fun pr => (b.count pr).trans (a.count pr), fun q => ?_⟩
  rcases a.cell q with h | ⟨h, h'⟩ | ⟨h, h'⟩
  · exact h ▸ b.cell q
  -- a cell that changed twice is back to what it held
  · rcases b.cell q with k | ⟨k, _⟩ | ⟨_, k'⟩
    · exact Or.inr (Or.inl ⟨h, k.trans h'⟩)
    · cases h'.symm.trans k
    · exact Or.inl (k'.trans h.symm)
  · rcases b.cell q with k | ⟨_, k'⟩ | ⟨k, _⟩
    · exact Or.inr (Or.inr ⟨h, k.trans h'⟩)
    · exact Or.inl (k'.trans h.symm)
    · cases h'.symm.trans k

theorem Swept.swap {g : Grid} (hg : g.WF) {p n : Pos} (hp : g.contains p = true ∧ g.at p = .obstacle)
    (hn : n ∈ freeNbrs g p) : Swept g (g.swap p n) := by
  have hnf := (mem_freeNbrs g p n).mp hn
  refine ⟨Grid.swap_WF g hg p n, rfl, rfl, Grid.count_swap g hg p n hp.1 hnf.2.1, fun q => ?_⟩
  rw [swap_free hg hp hn q]
  split
  · exact Or.inr (Or.inl ⟨by subst q; exact hnf.2.2, rfl⟩)
  · split
    · exact Or.inr (Or.inr ⟨by subst q; exact hp.2, rfl⟩)
    · exact Or.inl rfl

theorem Sweep.inv {ps : List Pos} {g g' : Grid} (h : Sweep ps g g') (hg : g.WF) (hnd : ps.Nodup)
    (hobs : ∀ p ∈ ps, g.contains p = true ∧ g.at p = .obstacle) : Swept g g' := by
  induction h with
  | nil g => exact .refl hg
  | stay p ps g g' _ _ ih =>
    exact ih hg (List.nodup_cons.mp hnd).2 fun q hq => hobs q (List.mem_cons_of_mem _ hq)
  | move p n ps g g' hn _ ih =>
    exact (Swept.swap hg (hobs p List.mem_cons_self) hn).trans
      (ih (Grid.swap_WF g hg p n) (List.nodup_cons.mp hnd).2 (swap_free_rest hg hnd hobs hn))

/-- the sweep `move_obstacles` runs: over the obstacles found at the start -/
theorem Sweep.inv_find {g g' : Grid} (h : Sweep (g.find fun o => o.isKind .obstacle) g g') (hg : g.WF) :
    Swept g g' :=
  h.inv hg (Grid.find_nodup _ _) fun p hp => by
    rwa [Grid.mem_find, isKind_obstacle] at hp

end GV
