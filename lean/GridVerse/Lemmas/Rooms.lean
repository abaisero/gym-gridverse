/-
  The room grid of `rooms` / `memory_rooms`: split vectors, walls, passages.
-/
import GridVerse.Lemmas.Shows
import GridVerse.Lemmas.Shuffle
namespace GV

/-- consecutive entries at least two apart (a room of at least one cell between two walls) -/
def Gapped : List Int → Prop
  | a :: b :: rest => a + 2 ≤ b ∧ Gapped (b :: rest)
  | _ => True

theorem gapped_iff_pairwise {l : List Int} : Gapped l ↔ l.Pairwise fun a b => a + 2 ≤ b :=
  chain_iff_pairwise (R := fun a b => a + 2 ≤ b) (fun _ _ _ h1 h2 => by omega) trivial (fun _ => trivial)
    (fun _ _ _ => Iff.rfl) l

theorem Gapped.getElem?_lt {l : List Int} (hg : Gapped l) {i j : Nat} {a b : Int}
    (hi : l[i]? = some a) (hj : l[j]? = some b) (hij : i < j) : a + 2 ≤ b := by
  obtain ⟨hi', rfl⟩ := List.getElem?_eq_some_iff.mp hi
  obtain ⟨hj', rfl⟩ := List.getElem?_eq_some_iff.mp hj
  exact List.pairwise_iff_getElem.mp (gapped_iff_pairwise.mp hg) i j hi' hj' hij

theorem Gapped.getElem?_le {l : List Int} (hg : Gapped l) {i j : Nat} {a b : Int}
    (hi : l[i]? = some a) (hj : l[j]? = some b) (hij : i ≤ j) : a ≤ b := by
  rcases Nat.lt_or_eq_of_le hij with h | rfl
  · have := hg.getElem?_lt hi hj h; omega
  · rw [hi] at hj; cases hj; omega

theorem pairwise_eq_zip {α} : ∀ l : List α, pairwise l = l.zip l.tail
  | [] | [_] => rfl
  | a :: b :: rest => by rw [pairwise, pairwise_eq_zip (b :: rest)]; rfl

theorem mem_pairwise_iff {l : List Int} {pr : Int × Int} :
    pr ∈ pairwise l ↔ ∃ k, l[k]? = some pr.1 ∧ l[k + 1]? = some pr.2 := by
  simp only [pairwise_eq_zip, List.mem_iff_getElem?, List.getElem?_zip_eq_some, List.getElem?_tail]

theorem getD_pair_mem (l : List Int) (i : Nat) (h : i + 1 < l.length) :
    (l.getD i 0, l.getD (i + 1) 0) ∈ pairwise l :=
  mem_pairwise_iff.mpr ⟨i, by rw [getD_of_lt 0 (Nat.lt_of_succ_lt h)]; exact List.getElem?_eq_getElem _,
    by rw [getD_of_lt 0 h]; exact List.getElem?_eq_getElem _⟩

theorem pairwise_mem {l : List Int} {pr : Int × Int} (h : pr ∈ pairwise l) : pr.1 ∈ l ∧ pr.2 ∈ l := by
  obtain ⟨k, h1, h2⟩ := mem_pairwise_iff.mp h
  exact ⟨List.mem_of_getElem? h1, List.mem_of_getElem? h2⟩

theorem pairwise_gap {l : List Int} (hg : Gapped l) {pr : Int × Int} (h : pr ∈ pairwise l) : pr.1 + 2 ≤ pr.2 := by
  obtain ⟨k, h1, h2⟩ := mem_pairwise_iff.mp h
  exact hg.getElem?_lt h1 h2 (Nat.lt_succ_self k)

theorem Gapped.sep {l : List Int} (hg : Gapped l) {a b : Int} (ha : a ∈ l) (hb : b ∈ l) (hab : a < b) : a + 2 ≤ b := by
  obtain ⟨i, hi⟩ := List.mem_iff_getElem?.mp ha
  obtain ⟨j, hj⟩ := List.mem_iff_getElem?.mp hb
  rcases Nat.lt_or_ge i j with h | h
  · exact hg.getElem?_lt hi hj h
  · have := hg.getElem?_le hj hi h; omega

theorem locate {l : List Int} (a z : Int) (ha : l.head? = some a) (hz : l.getLast? = some z)
    (x : Int) (h1 : a < x) (h2 : x < z) (hx : x ∉ l) : ∃ pr ∈ pairwise l, pr.1 < x ∧ x < pr.2 := by
  induction l generalizing a with
  | nil => simp at ha
  | cons c l ih =>
    simp only [List.head?_cons, Option.some.injEq] at ha
    subst ha
    cases l with
    | nil => simp at hz; omega
    | cons b rest =>
      by_cases hb : x < b
      · exact ⟨(c, b), List.mem_cons_self, h1, hb⟩
      · have hxb : x ≠ b := fun h => hx (by simp [h])
        have hz' : (b :: rest).getLast? = some z := List.getLast?_cons_cons ▸ hz
        obtain ⟨pr, hpr, hlt⟩ := ih b rfl hz' (by omega) (fun h => hx (List.mem_cons_of_mem _ h))
        exact ⟨pr, List.mem_cons_of_mem _ hpr, hlt⟩

/-- the entries strictly between first and last (`l[1:-1]`; `roomsGrid` binds the same term to a local name) -/
def inner (l : List Int) : List Int := (l.drop 1).dropLast

theorem mem_inner_iff {l : List Int} {y : Int} : y ∈ inner l ↔ ∃ k, k + 2 < l.length ∧ l[k + 1]? = some y := by
  simp only [inner, List.mem_iff_getElem?, List.getElem?_dropLast, List.getElem?_drop, List.length_drop,
    Option.ite_none_right_eq_some, Nat.add_comm 1]
  exact exists_congr fun k => and_congr_left fun _ => by omega

theorem inner_pairs {l : List Int} {y : Int} (h : y ∈ inner l) : (∃ b, (y, b) ∈ pairwise l) ∧ ∃ a, (a, y) ∈ pairwise l := by
  obtain ⟨k, hk, hy⟩ := mem_inner_iff.mp h
  exact ⟨⟨l[k + 2], mem_pairwise_iff.mpr ⟨k + 1, hy, List.getElem?_eq_getElem hk⟩⟩,
    ⟨l[k]'(by omega), mem_pairwise_iff.mpr ⟨k, List.getElem?_eq_getElem _, hy⟩⟩⟩

/-- the shape of a valid split vector of a side of length `n` -/
structure SplitsOK (n : Int) (l : List Int) : Prop where
  gapped : Gapped l
  first : l.head? = some 0
  last : l.getLast? = some (n - 1)
  two : 2 ≤ l.length

theorem SplitsOK.bounds {n : Int} {l : List Int} (s : SplitsOK n l) : ∀ x ∈ l, 0 ≤ x ∧ x ≤ n - 1 := by
  intro x hx
  obtain ⟨k, hk⟩ := List.mem_iff_getElem?.mp hx
  have hlt := (List.getElem?_eq_some_iff.mp hk).1
  exact ⟨s.gapped.getElem?_le (List.head?_eq_getElem? ▸ s.first) hk (Nat.zero_le k),
    s.gapped.getElem?_le hk (List.getLast?_eq_getElem? ▸ s.last) (by omega)⟩

theorem SplitsOK.zero_mem {n : Int} {l : List Int} (s : SplitsOK n l) : (0 : Int) ∈ l :=
  List.mem_of_mem_head? s.first

theorem SplitsOK.last_mem {n : Int} {l : List Int} (s : SplitsOK n l) : n - 1 ∈ l :=
  List.mem_of_mem_getLast? s.last

/-- a side given as an integer is the side of the grid built from it -/
theorem SplitsOK.toNat {n : Int} {l : List Int} (s : SplitsOK n l) : SplitsOK (n.toNat : Nat) l := by
  have := (s.bounds _ s.last_mem).1
  rw [Int.toNat_of_nonneg (by omega)]
  exact s

theorem SplitsOK.pair {n : Int} {l : List Int} (s : SplitsOK n l) {pr : Int × Int} (hp : pr ∈ pairwise l) :
    0 ≤ pr.1 ∧ pr.1 + 2 ≤ pr.2 ∧ pr.2 ≤ n - 1 :=
  ⟨(s.bounds _ (pairwise_mem hp).1).1, pairwise_gap s.gapped hp, (s.bounds _ (pairwise_mem hp).2).2⟩

theorem SplitsOK.between {n : Int} {l : List Int} (s : SplitsOK n l) {pr : Int × Int} (hp : pr ∈ pairwise l)
    {v : Int} (h1 : pr.1 < v) (h2 : v < pr.2) : v ∉ l ∧ 0 < v ∧ v < n - 1 := by
  have := s.pair hp
  refine ⟨fun hv => ?_, by omega, by omega⟩
  -- an entry comes no later than `pr.1`, or no earlier than `pr.2`
  obtain ⟨k, hk1, hk2⟩ := mem_pairwise_iff.mp hp
  obtain ⟨m, hm⟩ := List.mem_iff_getElem?.mp hv
  rcases Nat.lt_or_ge k m with hkm | hkm
  · have := s.gapped.getElem?_le hk2 hm hkm; omega
  · have := s.gapped.getElem?_le hm hk1 hkm; omega

theorem SplitsOK.off_rim {n : Int} {l : List Int} (s : SplitsOK n l) {v : Int} (hv : v ∉ l) : v ≠ 0 ∧ v ≠ n - 1 :=
  ⟨fun e => hv (e ▸ s.zero_mem), fun e => hv (e ▸ s.last_mem)⟩

theorem SplitsOK.locate {n : Int} {l : List Int} (s : SplitsOK n l) {v : Int} (hv : v ∉ l) (h0 : 0 ≤ v) (h1 : v < n) :
    ∃ pr ∈ pairwise l, pr.1 < v ∧ v < pr.2 := by
  have := s.off_rim hv
  exact GV.locate 0 (n - 1) s.first s.last v (by omega) (by omega) hv

theorem SplitsOK.left_inner {n : Int} {l : List Int} (s : SplitsOK n l) {pr : Int × Int} (hp : pr ∈ pairwise l)
    (hne : pr.1 ≠ 0) : pr.1 ∈ inner l := by
  obtain ⟨k, h1, h2⟩ := mem_pairwise_iff.mp hp
  cases k with
  | zero => rw [← List.head?_eq_getElem?, s.first] at h1; exact absurd (Option.some.inj h1).symm hne
  | succ k => exact mem_inner_iff.mpr ⟨k, (List.getElem?_eq_some_iff.mp h2).1, h1⟩

theorem SplitsOK.inner_lt {n : Int} {l : List Int} (s : SplitsOK n l) {y : Int} (h : y ∈ inner l) :
    0 < y ∧ y < n - 1 := by
  obtain ⟨⟨b, hb⟩, ⟨a, ha⟩⟩ := inner_pairs h
  have := s.pair hb
  have := s.pair ha
  simp only at *
  omega

theorem SplitsOK.one_not_mem {n : Int} {l : List Int} (s : SplitsOK n l) : (1 : Int) ∉ l := by
  intro h
  have := s.gapped.sep s.zero_mem h (by omega)
  omega

theorem SplitsOK.penult_not_mem {n : Int} {l : List Int} (s : SplitsOK n l) : n - 2 ∉ l := by
  intro h
  have := s.gapped.sep h s.last_mem (by omega)
  omega

theorem listMin_eq {l : List Int} {m : Int} (hm : m ∈ l) (h : ∀ x ∈ l, m ≤ x) : listMin l = m := by
  cases l with
  | nil => cases hm
  | cons a rest =>
    have := List.min?_eq_some_iff.mpr ⟨hm, h⟩
    rw [List.min?_cons'] at this
    simpa [listMin] using this

theorem listMax_eq {l : List Int} {m : Int} (hm : m ∈ l) (h : ∀ x ∈ l, x ≤ m) : listMax l = m := by
  cases l with
  | nil => cases hm
  | cons a rest =>
    have := List.max?_eq_some_iff.mpr ⟨hm, h⟩
    rw [List.max?_cons'] at this
    simpa [listMax] using this

theorem drawRoomGrid_spec {g : Grid} {h w : Nat} {f : Pos → Obj} (s : g.Shows h w f) (ys xs : List Int)
    (sy : SplitsOK h ys) (sx : SplitsOK w xs) :
    ∃ g1, drawRoomGrid g ys xs = .ok g1 ∧ g1.Shows h w fun q => if q.y ∈ ys ∨ q.x ∈ xs then .wall else f q := by
  unfold drawRoomGrid
  rw [listMin_eq sy.zero_mem fun x hx => (sy.bounds x hx).1, listMax_eq sy.last_mem fun x hx => (sy.bounds x hx).2,
    listMin_eq sx.zero_mem fun x hx => (sx.bounds x hx).1, listMax_eq sx.last_mem fun x hx => (sx.bounds x hx).2]
  obtain ⟨g1, e1, s1⟩ := s.drawAll (cartesian ys (intRange 0 ((w : Int) - 1))) .wall (by
    intro p hp
    rw [mem_cartesian, mem_intRange] at hp
    have := sy.bounds p.y hp.1
    rw [s.contains_iff]; omega)
  obtain ⟨g2, e2, s2⟩ := s1.drawAll
    (cartesian ((intRange 0 ((h : Int) - 1)).filter fun y => !ys.contains y) xs) .wall (by
      intro p hp
      rw [mem_cartesian, List.mem_filter, mem_intRange] at hp
      have := sx.bounds p.x hp.2
      rw [s1.contains_iff]; omega)
  refine ⟨g2, by simp only [e1, e2], s2.congr fun q hq => ?_⟩
  -- the first pass covers the split rows over the whole width, the second the split columns over the other rows
  rw [s2.contains_iff] at hq
  simp only [mem_cartesian, mem_intRange, List.mem_filter, List.contains_eq_mem, Bool.not_eq_true',
    decide_eq_false_iff_not]
  by_cases hy : q.y ∈ ys
  · rw [if_neg (fun c => c.1.2 hy), if_pos ⟨hy, hq.2.2.1, by omega⟩, if_pos (Or.inl hy)]
  · by_cases hx : q.x ∈ xs
    · rw [if_pos ⟨⟨⟨hq.1, by omega⟩, hy⟩, hx⟩, if_pos (Or.inr hx)]
    · rw [if_neg (fun c => hx c.2), if_neg (fun c => hy c.1), if_neg (fun c => c.elim hy hx)]

/-- `g'` is `g` with some cells that satisfy `P` turned into floor: what the passage loops of `rooms` and the
path-opening loop of `crossing` do to a grid -/
structure Opened (P : Pos → Prop) (g g' : Grid) : Prop where
  wf : g'.WF
  gh : g'.h = g.h
  gw : g'.w = g.w
  cell : ∀ q, g'.at q = g.at q ∨ (g'.at q = .floor ∧ P q)

theorem Opened.refl {P : Pos → Prop} {g : Grid} (wf : g.WF) : Opened P g g := ⟨wf, rfl, rfl, fun _ => .inl rfl⟩

theorem Opened.trans {P : Pos → Prop} {g g' g'' : Grid} (a : Opened P g g') (b : Opened P g' g'') : Opened P g g'' :=
  ⟨b.wf, b.gh.trans a.gh, b.gw.trans a.gw, fun q => (b.cell q).elim
    (fun h => (a.cell q).imp h.trans fun h' => ⟨h.trans h'.1, h'.2⟩) .inr⟩

theorem Opened.contains {P : Pos → Prop} {g g' : Grid} (a : Opened P g g') (q : Pos) : g'.contains q = g.contains q :=
  Grid.contains_congr a.gh a.gw q

theorem Opened.setP {P : Pos → Prop} {g g' : Grid} (a : Opened P g g') {o : Pos} (ho : g'.contains o = true)
    (hP : P o) : Opened P g (g'.setP o .floor) :=
  a.trans ⟨Grid.setP_WF g' a.wf _ _, rfl, rfl, fun q => by
    rw [Grid.at_setP g' a.wf _ _ ho]
    split
    · next hq => exact .inr ⟨rfl, hq ▸ hP⟩
    · exact .inl rfl⟩

/-- a sequence of passages: every slot gets one opening strictly inside its wall segment -/
theorem passages_spec {α : Type} (mk : α → Int → Pos) (lo hi : α → Int) (slots : List α) (Open : Pos → Prop)
    (g : Grid) (wf : g.WF) (d : DrawSt)
    (hslot : ∀ t ∈ slots, lo t + 2 ≤ hi t ∧
      ∀ v, lo t < v → v < hi t → g.contains (mk t v) = true ∧ Open (mk t v)) :
    ∃ g' d', slots.foldlM (fun acc t => passage (mk t) (lo t) (hi t) acc) (g, d) = .ok (g', d') ∧
      Opened Open g g' ∧ ∀ t ∈ slots, ∃ v, lo t < v ∧ v < hi t ∧ g'.at (mk t v) = .floor := by
  induction slots generalizing g d with
  | nil => exact ⟨g, d, rfl, .refl wf, fun t ht => (by cases ht)⟩
  | cons t rest ih =>
    obtain ⟨hg, hin⟩ := hslot t (List.mem_cons_self ..)
    obtain ⟨v, d1, hdraw, hv1, hv2⟩ := drawIntegers_some (lo t + 1) (hi t) (by omega) d
    obtain ⟨hc, hopen⟩ := hin v (by omega) hv2
    have o1 : Opened Open g (g.setP (mk t v) .floor) := (Opened.refl wf).setP hc hopen
    -- `setP` keeps `h` and `w`, hence `contains`, by definition
    obtain ⟨g', d', hfold, o2, hopens⟩ := ih (g.setP (mk t v) .floor) o1.wf d1
      (fun s hs => hslot s (List.mem_cons_of_mem _ hs))
    refine ⟨g', d', ?_, o1.trans o2, fun s hs => ?_⟩
    · simp only [List.foldlM_cons, passage, hdraw, Grid.setE_ok g (mk t v) .floor hc]
      exact hfold
    · rcases List.mem_cons.mp hs with rfl | hs
      · refine ⟨v, by omega, hv2, ?_⟩
        rcases o2.cell (mk s v) with h | ⟨h, _⟩
        · rw [h, Grid.at_setP g wf _ _ hc, if_pos rfl]
        · exact h
      · exact hopens s hs

/-- membership in `[(a, b) for a in l for b in m]`, the shape of the two slot lists -/
theorem mem_pairs {α β : Type} {l : List α} {m : List β} {t : α × β} :
    t ∈ l.flatMap (fun a => m.map fun b => (a, b)) ↔ t.1 ∈ l ∧ t.2 ∈ m := by
  simp only [List.mem_flatMap, List.mem_map]
  constructor
  · rintro ⟨a, ha, b, hb, rfl⟩; exact ⟨ha, hb⟩
  · rintro ⟨ha, hb⟩; exact ⟨t.1, ha, t.2, hb, rfl⟩

/-- where an opening may lie: in an inner wall row between two wall columns, or in an inner wall column
between two wall rows -/
def Opening (ys xs : List Int) (q : Pos) : Prop :=
  (q.y ∈ inner ys ∧ ∃ pr ∈ pairwise xs, pr.1 < q.x ∧ q.x < pr.2) ∨
  (q.x ∈ inner xs ∧ ∃ pr ∈ pairwise ys, pr.1 < q.y ∧ q.y < pr.2)

theorem drawPassages_spec {g : Grid} {h w : Nat} (wf : g.WF) (gh : g.h = h) (gw : g.w = w) (ys xs : List Int)
    (sy : SplitsOK h ys) (sx : SplitsOK w xs) (d : DrawSt) :
    ∃ g' d', drawPassages g ys xs d = .ok (g', d') ∧ Opened (Opening ys xs) g g' ∧
      (∀ y ∈ inner ys, ∀ pr ∈ pairwise xs, ∃ v, pr.1 < v ∧ v < pr.2 ∧ g'.at ⟨y, v⟩ = .floor) ∧
      (∀ pr ∈ pairwise ys, ∀ x ∈ inner xs, ∃ u, pr.1 < u ∧ u < pr.2 ∧ g'.at ⟨u, x⟩ = .floor) := by
  -- horizontal walls: the slot `(y, pr)` is the segment of the wall row `y` between the columns of `pr`
  obtain ⟨g2, d2, e2, o2, open2⟩ := passages_spec
    (fun (t : Int × (Int × Int)) v => (⟨t.1, v⟩ : Pos)) (fun t => t.2.1) (fun t => t.2.2)
    ((inner ys).flatMap fun y => (pairwise xs).map fun pr => (y, pr)) (Opening ys xs) g wf d
    (fun t ht => by
      obtain ⟨hy, hpr⟩ := mem_pairs.mp ht
      refine ⟨pairwise_gap sx.gapped hpr, fun v h1 h2 => ⟨?_, Or.inl ⟨hy, t.2, hpr, h1, h2⟩⟩⟩
      have := sy.inner_lt hy
      have := sx.between hpr h1 h2
      rw [Grid.contains_iff, gh, gw]; simp only; omega)
  obtain ⟨g3, d3, e3, o3, open3⟩ := passages_spec
    (fun (t : (Int × Int) × Int) v => (⟨v, t.2⟩ : Pos)) (fun t => t.1.1) (fun t => t.1.2)
    ((pairwise ys).flatMap fun pr => (inner xs).map fun x => (pr, x)) (Opening ys xs) g2 o2.wf d2
    (fun t ht => by
      obtain ⟨hpr, hx⟩ := mem_pairs.mp ht
      refine ⟨pairwise_gap sy.gapped hpr, fun v h1 h2 => ⟨?_, Or.inr ⟨hx, t.1, hpr, h1, h2⟩⟩⟩
      have := sx.inner_lt hx
      have := sy.between hpr h1 h2
      rw [Grid.contains_iff, o2.gh, o2.gw, gh, gw]; simp only; omega)
  refine ⟨g3, d3, ?_, o2.trans o3, ?_, fun pr hpr x hx => open3 (pr, x) (mem_pairs.mpr ⟨hpr, hx⟩)⟩
  · simp only [inner] at e2 e3
    simp only [drawPassages, e2]
    exact e3
  · -- an opening of the first loop is still one after the second
    intro y hy pr hpr
    obtain ⟨v, a, b, c⟩ := open2 (y, pr) (mem_pairs.mpr ⟨hy, hpr⟩)
    refine ⟨v, a, b, ?_⟩
    rcases o3.cell ⟨y, v⟩ with h | ⟨h, _⟩
    · rw [h]; exact c
    · exact h

/-- the grid of `rooms` / `memory_rooms` once walls and passages are drawn -/
structure RoomsGrid (h w : Nat) (ys xs : List Int) (g : Grid) : Prop where
  wf : g.WF
  gh : g.h = h
  gw : g.w = w
  room : ∀ q, g.contains q = true → q.y ∉ ys → q.x ∉ xs → g.at q = .floor
  kinds : ∀ q, g.contains q = true → g.at q = .wall ∨ g.at q = .floor
  hpass : ∀ y ∈ inner ys, ∀ pr ∈ pairwise xs, ∃ v, pr.1 < v ∧ v < pr.2 ∧ g.at ⟨y, v⟩ = .floor
  vpass : ∀ pr ∈ pairwise ys, ∀ x ∈ inner xs, ∃ u, pr.1 < u ∧ u < pr.2 ∧ g.at ⟨u, x⟩ = .floor
  floors : ∀ q, g.contains q = true → g.at q = .floor →
    (q.y ∉ ys ∧ q.x ∉ xs) ∨ (q.y ∈ inner ys ∧ ∃ pr ∈ pairwise xs, pr.1 < q.x ∧ q.x < pr.2) ∨
    (q.x ∈ inner xs ∧ ∃ pr ∈ pairwise ys, pr.1 < q.y ∧ q.y < pr.2)

theorem tooClose_eq_false_iff (l : List Int) : tooClose l = false ↔ Gapped l := by
  induction l with
  | nil => simp [tooClose, Gapped]
  | cons a rest ih =>
    cases rest with
    | nil => simp [tooClose, Gapped]
    | cons b rest' =>
      simp only [tooClose, Gapped, Bool.or_eq_false_iff, decide_eq_false_iff_not, ih]
      exact and_congr_left' (by omega)

theorem roomsGrid_spec (sh : Shape) (lh lw : Int) (ys xs : List Int) (d : DrawSt) (hl : 1 ≤ lh ∧ 1 ≤ lw)
    (sy : SplitsOK sh.h ys) (sx : SplitsOK sh.w xs) :
    ∃ g d', roomsGrid sh lh lw ys xs d = .ok (g, d') ∧ RoomsGrid sh.h.toNat sh.w.toNat ys xs g := by
  obtain ⟨g1, e1, s1⟩ := drawRoomGrid_spec (Grid.Shows.fill sh.h.toNat sh.w.toNat .floor) ys xs sy.toNat sx.toNat
  obtain ⟨g, d', e, o, hpass, vpass⟩ := drawPassages_spec s1.wf s1.gh s1.gw ys xs sy.toNat sx.toNat d
  have hcond : (decide (lh < 1) || decide (lw < 1)) = false := by simp; omega
  have cells : ∀ q, g.contains q = true →
      g.at q = (if q.y ∈ ys ∨ q.x ∈ xs then .wall else .floor) ∨ (g.at q = .floor ∧ Opening ys xs q) := by
    intro q hq
    rcases o.cell q with h | h
    · exact Or.inl (h.trans (s1.cell q (o.contains q ▸ hq)))
    · exact Or.inr h
  refine ⟨g, d', ?_, o.wf, o.gh.trans s1.gh, o.gw.trans s1.gw, ?_, ?_, hpass, vpass, ?_⟩
  · simp only [roomsGrid, hcond, (tooClose_eq_false_iff _).mpr sy.gapped, (tooClose_eq_false_iff _).mpr sx.gapped,
      Bool.false_eq_true, if_false, e1, e]
  · intro q hq hy hx
    rcases cells q hq with h | ⟨h, _⟩
    · rw [h, if_neg (fun c => c.elim hy hx)]
    · exact h
  · intro q hq
    rcases cells q hq with h | ⟨h, _⟩
    · rw [h]; split
      · exact Or.inl rfl
      · exact Or.inr rfl
    · exact Or.inr h
  · intro q hq hfl
    rcases cells q hq with h | ⟨_, h⟩
    · rw [h] at hfl
      by_cases hw' : q.y ∈ ys ∨ q.x ∈ xs
      · rw [if_pos hw'] at hfl; cases hfl
      · exact Or.inl ⟨fun h => hw' (Or.inl h), fun h => hw' (Or.inr h)⟩
    · exact Or.inr h

theorem gappedB_iff (l : List Int) : gappedB l = true ↔ Gapped l := by
  induction l with
  | nil => simp [gappedB, Gapped]
  | cons a rest ih =>
    cases rest with
    | nil => simp [gappedB, Gapped]
    | cons b rest' => simp only [gappedB, Gapped, Bool.and_eq_true, decide_eq_true_eq, ih]

/-- the executable check the driver answers for the harness is the hypothesis of the theorems -/
theorem splitsOKb_iff (n : Int) (l : List Int) : splitsOKb n l = true ↔ SplitsOK n l := by
  simp only [splitsOKb, Bool.and_eq_true, beq_iff_eq, decide_eq_true_eq, gappedB_iff]
  constructor
  · rintro ⟨⟨⟨a, b⟩, c⟩, e⟩; exact ⟨a, b, c, e⟩
  · rintro ⟨a, b, c, e⟩; exact ⟨⟨⟨a, b⟩, c⟩, e⟩

/-- the final grid: the room grid with the exit put on one of its floor cells -/
structure RoomsFinal (h w : Nat) (ys xs : List Int) (g0 g : Grid) (ep : Pos) : Prop where
  base : RoomsGrid h w ys xs g0
  epIn : g0.contains ep = true
  epFloor : g0.at ep = .floor
  eq : g = g0.setP ep (.exit .none)

theorem RoomsFinal.contains {h w : Nat} {ys xs : List Int} {g0 g : Grid} {ep : Pos}
    (r : RoomsFinal h w ys xs g0 g ep) (q : Pos) : g.contains q = g0.contains q := by
  rw [r.eq]; simp

theorem RoomsFinal.at {h w : Nat} {ys xs : List Int} {g0 g : Grid} {ep : Pos}
    (r : RoomsFinal h w ys xs g0 g ep) (q : Pos) : g.at q = if q = ep then .exit .none else g0.at q := by
  rw [r.eq, Grid.at_setP g0 r.base.wf ep _ r.epIn]

theorem RoomsFinal.wf {h w : Nat} {ys xs : List Int} {g0 g : Grid} {ep : Pos}
    (r : RoomsFinal h w ys xs g0 g ep) : g.WF := by
  rw [r.eq]; exact Grid.setP_WF _ r.base.wf _ _

theorem RoomsFinal.kinds {h w : Nat} {ys xs : List Int} {g0 g : Grid} {ep : Pos}
    (r : RoomsFinal h w ys xs g0 g ep) {q : Pos} (hq : g0.contains q = true) :
    g.at q = .wall ∨ g.at q = .floor ∨ (q = ep ∧ g.at q = .exit .none) := by
  rw [r.at]
  split
  · exact .inr (.inr ⟨‹_›, rfl⟩)
  · exact (r.base.kinds q hq).imp_right .inl

end GV
