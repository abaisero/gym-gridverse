/-
  C01 / C15 "in particular … every trajectory of every shipped environment".

  `Generated/Envs.lean` is regenerated from the shipped YAML files on every run: for each shipped
  environment its declared state space, its reset function with the parameter values written in the
  file (for the room layouts: with the split vectors numpy computes), its chain of transition
  functions and its terminating function (used by Props/C14Shipped.lean, not here).  The Boolean
  `ShippedEnv.ok` collects the decidable side conditions of the reset theorems (Props/C01Resets.lean)
  and of the closure theorem (`ChainPre`); kernel evaluation checks it for all 21 files.  The conclusion
  is unbounded: for every stream of draws and every sequence of actions, whatever the random outcomes,
  the run from the state the reset returns does not raise and every state along it is in the declared
  state space.
-/
import GridVerse.Props.C01Resets
import GridVerse.Props.C15
import GridVerse.Generated.Envs
namespace GV

/-- what a reset function writes: the shape, the kinds and the colours, and the decidable condition on
its parameters under which the reset theorems (Props/C01Resets.lean) say so -/
structure Footprint where
  shape : Shape
  kinds : List Kind
  colors : List Color
  side : Bool

def ResetSpec.writes : ResetSpec → Footprint
  | .empty sh _ _ => ⟨sh, [.wall, .floor, .exit], [], true⟩
  | .rooms sh _ _ ys xs =>
    ⟨sh, [.wall, .floor, .exit], [], decide (4 ≤ sh.h ∧ 3 ≤ sh.w) && splitsOKb sh.h ys && splitsOKb sh.w xs⟩
  | .dynamicObstacles sh _ _ => ⟨sh, [.wall, .floor, .exit, .obstacle], [], true⟩
  | .keydoor sh => ⟨sh, [.wall, .floor, .exit, .key, .door], [.yellow], true⟩
  | .crossing sh _ k => ⟨sh, [.wall, .floor, .exit], [], k == .wall⟩
  | .teleport sh => ⟨sh, [.wall, .floor, .exit, .telepod], [.red], true⟩
  | .memory sh cs => ⟨sh, [.wall, .floor, .exit, .beacon], cs, decide cs.Nodup⟩
  | .memoryRooms sh _ _ ys xs cs _ _ =>
    ⟨sh, [.wall, .floor, .exit, .beacon], cs,
      splitsOKb sh.h ys && splitsOKb sh.w xs && decide cs.Nodup⟩

theorem ResetSpec.run_uses (r : ResetSpec) (hs : r.writes.side = true) (d : DrawSt) (s : State) (d' : DrawSt)
    (he : r.run d = .ok (s, d')) :
    Uses r.writes.kinds r.writes.colors r.writes.shape.h.toNat r.writes.shape.w.toNat s := by
  cases r with
  | empty sh ra re => exact empty_uses sh ra re d s d' he
  | rooms sh lh lw ys xs =>
    simp only [ResetSpec.writes, Bool.and_eq_true, decide_eq_true_eq, splitsOKb_iff] at hs
    exact rooms_uses sh lh lw ys xs d hs.1.1 hs.1.2 hs.2 s d' he
  | dynamicObstacles sh n ra => exact dynamicObstacles_uses sh n ra d s d' he
  | keydoor sh => exact keydoor_uses sh d s d' he
  | crossing sh n k =>
    obtain rfl : k = .wall := by simpa [ResetSpec.writes] using hs
    exact crossing_uses sh n d s d' he
  | teleport sh => exact teleport_uses sh d s d' he
  | memory sh cs => exact memory_uses sh cs d (by simpa [ResetSpec.writes] using hs) s d' he
  | memoryRooms sh lh lw ys xs cs nb ne =>
    simp only [ResetSpec.writes, Bool.and_eq_true, decide_eq_true_eq, splitsOKb_iff] at hs
    exact memoryRooms_uses sh lh lw ys xs cs nb ne d hs.1.1 hs.1.2 hs.2 s d' he

theorem ResetSpec.writes_no_box (r : ResetSpec) : Kind.box ∉ r.writes.kinds := by
  cases r <;> simp [ResetSpec.writes]

/-- the decidable side conditions: the chain's preconditions on the space hold; the parameters are in
the range the reset theorems cover; the space has the reset function's shape and declares the kinds
and colours it writes -/
def Gen.ShippedEnv.ok (e : Gen.ShippedEnv) : Bool :=
  let w := e.reset.writes
  (!e.trans.contains .pickndrop || e.space.kinds.contains .floor) && !e.trans.contains .actuateBox &&
  w.side && e.space.h == w.shape.h.toNat && e.space.w == w.shape.w.toNat &&
  (w.kinds.all fun k => e.space.kinds.contains k) && (w.colors.all fun c => e.space.colors.contains c)

theorem mem_of_all_contains {α} [BEq α] [LawfulBEq α] {ks l : List α}
    (h : (ks.all fun k => l.contains k) = true) : ∀ k ∈ ks, k ∈ l := by
  intro k hk
  simpa using List.all_eq_true.mp h k hk

theorem reset_conf_of_ok (e : Gen.ShippedEnv) (hok : e.ok = true) (d : DrawSt) (s : State) (d' : DrawSt)
    (he : e.reset.run d = .ok (s, d')) : Conf e.space false s := by
  simp only [Gen.ShippedEnv.ok, Bool.and_eq_true, beq_iff_eq] at hok
  obtain ⟨⟨⟨⟨⟨_, hside⟩, eh⟩, ew⟩, hk⟩, hc⟩ := hok
  have u := e.reset.run_uses hside d s d' he
  rw [← eh, ← ew] at u
  exact u.conf e.space false (mem_of_all_contains hk) (mem_of_all_contains hc) e.reset.writes_no_box

theorem chainPre_of_ok (e : Gen.ShippedEnv) (hok : e.ok = true) : ChainPre e.space false e.trans := by
  simp only [Gen.ShippedEnv.ok, Bool.and_eq_true, Bool.or_eq_true, Bool.not_eq_true'] at hok
  obtain ⟨⟨⟨⟨⟨⟨hp, hb⟩, _⟩, _⟩, _⟩, _⟩, _⟩ := hok
  exact ⟨fun hm => hp.resolve_left (by simp [hm]), fun hm => by simp [hm] at hb⟩

/-- the side conditions hold for every shipped environment (regenerated data) -/
theorem C01_shipped_side_conditions : Gen.shippedEnvs.all Gen.ShippedEnv.ok = true := by decide +kernel

/-- **C01 for the shipped environments.**  For each of them, every stream of draws and every sequence
of actions: if the reset returns a state, then the whole run is defined (no step raises) and ends —
hence passes only — in states of the declared state space, which the space's own membership
predicate accepts. -/
theorem C01_shipped_trajectories (e : Gen.ShippedEnv) (he : e ∈ Gen.shippedEnvs) (d : DrawSt) (s : State) (d' : DrawSt)
    (hr : e.reset.run d = .ok (s, d')) (acts : List Action) :
    ∃ s2 d2, runHistory e.trans acts s d' = .ok (s2, d2) ∧ Conf e.space false s2 ∧ e.space.contains s2 = true := by
  have hok : e.ok = true := List.all_eq_true.mp C01_shipped_side_conditions e he
  have c0 := reset_conf_of_ok e hok d s d' hr
  obtain ⟨s2, d2, h1, c2⟩ := C01_history_total e.space false e.trans (chainPre_of_ok e hok) acts s d' c0
  exact ⟨s2, d2, h1, c2, c2.contains⟩

theorem shipped_big_enough : Gen.shippedEnvs.all (fun e => decide (2 ≤ e.space.h) && decide (2 ≤ e.space.w)) = true := by
  decide +kernel

/-- **C15 for the shipped environments.**  At every point of every run (any draws, any actions) the
state converts, in each of the three encodings, into the representation's declared space. -/
theorem C15_shipped_trajectories (e : Gen.ShippedEnv) (he : e ∈ Gen.shippedEnvs) (d : DrawSt) (s : State) (d' : DrawSt)
    (hr : e.reset.run d = .ok (s, d')) (acts : List Action) (enc : Enc) (debug : Bool) :
    ∃ s2 d2 r, runHistory e.trans acts s d' = .ok (s2, d2) ∧ stateConvert enc e.space debug s2 = .ok r ∧
      (stateSpaceOf enc e.space).containsState r = true := by
  obtain ⟨s2, d2, h1, c2, _⟩ := C01_shipped_trajectories e he d s d' hr acts
  have hb := List.all_eq_true.mp shipped_big_enough e he
  simp only [Bool.and_eq_true, decide_eq_true_eq] at hb
  obtain ⟨r, hr1, hr2⟩ := C15_state_conf enc debug c2 hb.1 hb.2
  exact ⟨s2, d2, r, h1, hr1, hr2⟩

/-- all 21 shipped files are covered -/
example : Gen.shippedEnvs.length = 21 := by decide

end GV
