/-
  C14 — Every initial state is winnable.

  "From every initial state produced by a built-in reset function, the rewarded goal - the exit, or
  for the memory tasks the exit whose colour matches the beacon - can be reached using the
  environment's own dynamics without first passing through a terminating state: through the river
  openings, the room passages, or, for key-door, by fetching the key and unlocking the door."

  `Reaches` (Lemmas/Walk.lean) is the statement; `checkPlan` decides it for a given plan
  (`C14_certificate_sound`).  For `empty`, `memory`, `keydoor` (here) and `teleport`
  (Props/C14Teleport.lean) the `plan*` functions of `Model/Win.lean` are the witnesses, proved winning
  for *every* parameter value and every stream of draws, and run on the real environment by the
  correspondence; each is proved for any state whose grid shows the layout (`plan*_wins`), and the
  reset's description (C13) is put in at the end.  For `rooms` (Props/C14Rooms.lean) and `crossing` (Props/C14Crossing.lean) the exit
  is proved connected to the agent's cell for every parameter value and every stream, which gives
  `Reaches` (`conn_reaches`).  `memory_rooms` is proved under a side condition only
  (Props/C14MemoryRooms.lean, known finding F9); `dynamic_obstacles` is decided for the two shipped
  parameter sets by certificate tables (Props/C14Obstacles.lean).
-/
import GridVerse.Lemmas.KeyDoor
namespace GV

/-- **certificate soundness**: a plan that `checkPlan` accepts witnesses reachability -/
theorem C14_certificate_sound (fs : List TransAtom) (stop : State → Action → State → Bool) (goal : State → Bool)
    (acts : List Action) (s : State) (d : DrawSt) (h : checkPlan fs stop goal s acts d = true) :
    Reaches fs stop goal s := by
  induction acts generalizing s d with
  | nil => exact .here s h
  | cons a as ih =>
    simp only [checkPlan, Bool.or_eq_true] at h
    rcases h with h | h
    · exact .here s h
    · cases hr : runChain fs s a d with
      | error e => rw [hr] at h; cases h
      | ok p =>
        obtain ⟨s', d'⟩ := p
        rw [hr] at h
        simp only [Bool.and_eq_true, Bool.or_eq_true, Bool.not_eq_true'] at h
        exact .step s a d s' d' hr h.1 (ih s' d' h.2)

/-- the solver only ever returns accepted plans when its answer is re-checked, which is how the
driver uses it: `solve` proposes, `checkPlan` decides -/
theorem C14_solve_checked (fs : List TransAtom) (stop : State → Action → State → Bool) (goal : State → Bool)
    (s : State) (plan : List Action) (_ : solve fs stop goal s = some plan)
    (hc : checkPlan fs stop goal s plan ⟨[], []⟩ = true) : Reaches fs stop goal s :=
  C14_certificate_sound fs stop goal plan s _ hc

theorem reaches_of_plan {fs : List TransAtom} {stop : State → Action → State → Bool} {goal : State → Bool}
    {r : Except PyErr (State × DrawSt)} {plan : State → List Action} {d0 : DrawSt}
    (h : ∃ s d', r = .ok (s, d') ∧ checkPlan fs stop goal s (plan s) d0 = true) :
    ∃ s d', r = .ok (s, d') ∧ Reaches fs stop goal s := by
  obtain ⟨s, d', he, hc⟩ := h
  exact ⟨s, d', he, C14_certificate_sound fs stop goal (plan s) s d0 hc⟩

theorem EmptyRoom.pass {h w : Nat} {ep : Pos} {s : State} (room : EmptyRoom h w ep s.grid) (rest : List TransAtom)
    (pr : PlainRest rest) (c : Pos) (hc : Interior h w c) :
    Pass rest (stopOf .reachExit) goalExit s c := by
  obtain ⟨wf, gh, gw, hat⟩ := room
  have hin : s.grid.contains c = true := hc.contains gh gw
  refine Free.passExit wf ⟨hin, ?_⟩ (pr.quiet _)
  rw [hat c hin, if_neg hc.not_border]
  split <;> rfl

theorem planEmpty_wins {h w : Nat} {ep : Pos} {s : State} (room : EmptyRoom h w ep s.grid) (hepi : Interior h w ep)
    (hai : Interior h w s.agent.pos) (rest : List TransAtom) (pr : PlainRest rest) (d0 : DrawSt) :
    checkPlan (.moveAgent :: rest) (stopOf .reachExit) goalExit s (planEmpty s) d0 = true := by
  have hin : s.grid.contains ep = true := hepi.contains room.gh room.gw
  have hexit : (s.grid.at ep).isKind .exit = true := by rw [room.cell ep hin, if_pos rfl]; rfl
  -- the exit the plan heads for is `ep`
  have hfe : firstExit s.grid = ep := room.headD_find hin (by rw [if_pos rfl]; rfl) (fun q _ hqk => by
    by_cases hqe : q = ep
    · exact hqe
    · rw [if_neg hqe] at hqk; split at hqk <;> cases hqk) _
  unfold planEmpty
  rw [hfe, ← List.append_nil (lPlan _ _ _)]
  exact lplan_rect rest _ _ s ep [] d0 0 (h - 1) 0 (w - 1) (room.pass rest pr) hai hepi
    (goalExit_withPos hin hexit)

/-- **C14 (`empty`).**  For every valid shape, both flags, every stream of draws, and every chain
`move_agent :: rest` whose rest is plain (in particular the shipped `[move_agent, turn_agent]`):
the reset succeeds and `planEmpty` — down/up the agent's column, then along the exit's row — wins
under `reach_exit` termination. -/
theorem C14_empty (sh : Shape) (ra re : Bool) (d d0 : DrawSt) (hv : 4 ≤ sh.h ∧ 4 ≤ sh.w)
    (rest : List TransAtom) (pr : PlainRest rest) :
    ∃ s d', resetEmpty sh ra re d = .ok (s, d') ∧
      checkPlan (.moveAgent :: rest) (stopOf .reachExit) goalExit s (planEmpty s) d0 = true := by
  obtain ⟨s, d', he, ep, hepi, room, hai, _⟩ := C13_empty_wf sh ra re d hv
  exact ⟨s, d', he, planEmpty_wins room hepi hai rest pr d0⟩

/-- … and therefore the goal is reachable -/
theorem C14_empty_reaches (sh : Shape) (ra re : Bool) (d : DrawSt) (hv : 4 ≤ sh.h ∧ 4 ≤ sh.w)
    (rest : List TransAtom) (pr : PlainRest rest) :
    ∃ s d', resetEmpty sh ra re d = .ok (s, d') ∧
      Reaches (.moveAgent :: rest) (stopOf .reachExit) goalExit s :=
  reaches_of_plan (C14_empty sh ra re d ⟨[], []⟩ hv rest pr)

theorem memoryCell_kind (sh : Shape) (good bad : Color) (xg xb : Int) (q : Pos) :
    ((memoryCell sh good bad xg xb q).isKind .beacon = true → memoryCell sh good bad xg xb q = .beacon good) ∧
    ((memoryCell sh good bad xg xb q).isKind .exit = true → memoryCell sh good bad xg xb q = .exit bad ∨ q = ⟨1, xg⟩) := by
  unfold memoryCell
  by_cases c1 : q = ⟨sh.h - 2, sh.w - 2⟩
  · rw [if_pos c1]; exact ⟨fun _ => rfl, nofun⟩
  rw [if_neg c1]
  by_cases c2 : q = ⟨sh.h - 2, 1⟩
  · rw [if_pos c2]; exact ⟨fun _ => rfl, nofun⟩
  rw [if_neg c2]
  by_cases c3 : q = ⟨1, xb⟩
  · rw [if_pos c3]; exact ⟨nofun, fun _ => .inl rfl⟩
  rw [if_neg c3]
  by_cases c4 : q = ⟨1, xg⟩
  · rw [if_pos c4]; exact ⟨nofun, fun _ => .inr c4⟩
  rw [if_neg c4]
  split <;> exact ⟨nofun, nofun⟩

/-- the way of `planMemory`: up the middle corridor (from anywhere in it), then along the top one towards
column `xg` -/
def memoryWay (sh : Shape) (xg : Int) (c : Pos) : Prop :=
  (c.x = sh.w / 2 ∧ 1 ≤ c.y ∧ c.y ≤ sh.h - 3) ∨ (c.y = 1 ∧ Btw (sh.w / 2) xg c.x)

theorem memoryCell_way {sh : Shape} {good bad : Color} {xg xb : Int} (hh : 5 ≤ sh.h) (hw : 5 ≤ sh.w)
    (hx : (xg = 1 ∧ xb = sh.w - 2) ∨ (xg = sh.w - 2 ∧ xb = 1)) {c : Pos} (hc : memoryWay sh xg c) :
    memoryCell sh good bad xg xb c = if c = ⟨1, xg⟩ then .exit good else .floor := by
  obtain ⟨hy, hxb, hfl⟩ : c.y ≤ sh.h - 3 ∧ (c.y = 1 → c.x ≠ xb) ∧ ((c.y = 1 ∧ c.x = xg) ∨ memoryFloor sh c) := by
    unfold memoryFloor
    unfold memoryWay Btw at hc
    rcases hc with hc | hc <;> omega
  rw [memoryCell, if_neg fun h => by rw [h] at hy; simp only at hy; omega,
    if_neg fun h => by rw [h] at hy; simp only at hy; omega, if_neg fun h => hxb (congrArg Pos.y h) (congrArg Pos.x h)]
  split
  · rfl
  · next n4 => rw [if_pos (hfl.resolve_left fun h => n4 ((Pos.ext_iff' _ _).mpr h))]

/-- the `memory` grid with what `C13_memory_wf` says of its parameters: the good exit in one top corner,
the bad one in the other, of another colour -/
structure MemRoom (sh : Shape) (good bad : Color) (xg xb : Int) (g : Grid) : Prop where
  shows : g.Shows sh.h.toNat sh.w.toNat (memoryCell sh good bad xg xb)
  hh : 5 ≤ sh.h
  hw : 5 ≤ sh.w
  ne : good ≠ bad
  cols : (xg = 1 ∧ xb = sh.w - 2) ∨ (xg = sh.w - 2 ∧ xb = 1)

namespace MemRoom
variable {sh : Shape} {good bad : Color} {xg xb : Int}

theorem at_way {g : Grid} (r : MemRoom sh good bad xg xb g) {c : Pos} (hc : memoryWay sh xg c) :
    g.contains c = true ∧ g.at c = if c = ⟨1, xg⟩ then .exit good else .floor := by
  have ⟨_, hh, hw, _, hx⟩ := r
  have hcc : g.contains c = true := (r.shows.contains_iff c).mpr (by unfold memoryWay Btw at hc; omega)
  exact ⟨hcc, (r.shows.cell c hcc).trans (memoryCell_way hh hw hx hc)⟩

theorem at_exit {g : Grid} (r : MemRoom sh good bad xg xb g) :
    g.contains ⟨1, xg⟩ = true ∧ g.at ⟨1, xg⟩ = .exit good := by
  have ⟨_, _, hw, _, hx⟩ := r
  have := r.at_way (c := ⟨1, xg⟩) (.inr ⟨rfl, by unfold Btw; simp only; omega⟩)
  rwa [if_pos rfl] at this

/-- the beacon the goal test and the plan look at carries `good` -/
theorem beacon {g : Grid} (r : MemRoom sh good bad xg xb g) :
    ∃ bp rest, g.find (fun b => b.isKind .beacon) = bp :: rest ∧ g.at bp = .beacon good := by
  have ⟨sg, hh, hw, _, _⟩ := r
  have hb1c : g.contains ⟨sh.h - 2, 1⟩ = true := (sg.contains_iff _).mpr (by simp only; omega)
  have hm : (⟨sh.h - 2, 1⟩ : Pos) ∈ g.find (fun b => b.isKind .beacon) := by
    rw [Grid.mem_find, sg.cell _ hb1c, memoryCell, if_neg (by rw [Pos.ext_iff']; simp only; omega), if_pos rfl]
    exact ⟨hb1c, rfl⟩
  obtain ⟨bp, rest, hl⟩ := List.exists_cons_of_ne_nil (List.ne_nil_of_mem hm)
  obtain ⟨hc, hk⟩ := (Grid.mem_find _ _ bp).mp (hl ▸ List.mem_cons_self ..)
  refine ⟨bp, rest, hl, ?_⟩
  rw [sg.cell bp hc] at hk ⊢
  exact (memoryCell_kind sh good bad xg xb bp).1 hk

theorem goodExit_eq {g : Grid} (r : MemRoom sh good bad xg xb g) : goodExit g = ⟨1, xg⟩ := by
  obtain ⟨bp, rest, hfind, hbp⟩ := r.beacon
  unfold goodExit
  rw [hfind]
  simp only [hbp, Obj.color]
  refine r.shows.headD_find r.at_exit.1 (by rw [← r.shows.cell _ r.at_exit.1, r.at_exit.2]; simp [Obj.isKind, Obj.kind])
    (fun q _ hqk => ?_) _
  rw [Bool.and_eq_true] at hqk
  rcases (memoryCell_kind sh good bad xg xb q).2 hqk.1 with h | h
  · rw [h] at hqk; exact absurd (of_decide_eq_true hqk.2).symm r.ne
  · exact h

theorem goal {s : State} (r : MemRoom sh good bad xg xb s.grid) : goalMemory (withPos s ⟨1, xg⟩) = true := by
  obtain ⟨bp, rest, hfind, hbp⟩ := r.beacon
  simp only [goalMemory, withPos_grid, withPos_pos, r.at_exit.1, r.at_exit.2, hfind, hbp, Bool.true_and]
  simp [Obj.isKind, Obj.kind, Obj.color]

theorem pass {s : State} (r : MemRoom sh good bad xg xb s.grid) {rest : List TransAtom} (pr : PlainRest rest)
    {c : Pos} (hc : memoryWay sh xg c) : Pass rest (stopOf .reachExit) goalMemory s c := by
  obtain ⟨hcc, hatc⟩ := r.at_way hc
  refine Free.pass r.shows.wf ⟨hcc, by rw [hatc]; split <;> rfl⟩ (pr.quiet _) fun hk => ?_
  rw [hatc] at hk
  split at hk
  · next h => rw [h]; exact r.goal
  · cases hk

end MemRoom

theorem planMemory_wins {sh : Shape} {good bad : Color} {xg xb : Int} {s : State}
    (r : MemRoom sh good bad xg xb s.grid) (hpos : s.agent.pos = ⟨sh.h / 2, sh.w / 2⟩)
    (rest : List TransAtom) (pr : PlainRest rest) (d0 : DrawSt) :
    checkPlan (.moveAgent :: rest) (stopOf .reachExit) goalMemory s (planMemory s) d0 = true := by
  unfold planMemory
  rw [r.goodExit_eq, ← List.append_nil (lPlan _ _ _)]
  apply lplan_then rest _ _ s ⟨1, xg⟩ [] d0
  · intro y hy
    have := r.hh
    rw [hpos] at hy ⊢
    unfold Btw at hy
    exact r.pass pr (.inl ⟨rfl, by simp only at hy ⊢; omega, by simp only at hy ⊢; omega⟩)
  · intro x hx
    rw [hpos] at hx
    exact r.pass pr (.inr ⟨rfl, hx⟩)
  · exact r.goal

/-- **C14 (`memory`).**  For all valid parameters and every stream of draws: `planMemory` — up the
middle corridor to the top corridor, then sideways to the exit of the beacons' colour — reaches
that exit; no earlier step stands on an exit (in particular never on the other one). -/
theorem C14_memory (sh : Shape) (colors : List Color) (d d0 : DrawSt) (hv : MemoryValid sh colors)
    (hnd : colors.Nodup) (rest : List TransAtom) (pr : PlainRest rest) :
    ∃ s d', resetMemory sh colors d = .ok (s, d') ∧
      checkPlan (.moveAgent :: rest) (stopOf .reachExit) goalMemory s (planMemory s) d0 = true := by
  obtain ⟨s, d', good, bad, xg, xb, he, _, _, hgb, hx, hag, _, sg⟩ := C13_memory_wf sh colors d hv hnd
  exact ⟨s, d', he, planMemory_wins ⟨sg, hv.1, hv.2.1, hgb, hx⟩ (by rw [hag]) rest pr d0⟩

theorem keydoor_after_open {sh : Shape} {xw yd : Int} {s : State} (room : KDRoom sh xw yd none true s.grid)
    (hpos : s.agent.pos = ⟨yd, xw - 1⟩) (ho : s.agent.o = .R) (d0 : DrawSt) :
    checkPlan kdChain (stopOf .reachExit) goalExit s
      (walk .R .R 2 ++ (lPlan .R ⟨yd, xw + 1⟩ ⟨sh.h - 2, sh.w - 2⟩ ++ [])) d0 = true := by
  have ⟨_, _, hx1, hx2, hd1, hd2, _⟩ := room
  have e1 : shift s.agent.pos .R 1 = ⟨yd, xw⟩ := by
    rw [hpos]; simp only [shift, Pos.ofOrient, Pos.mk.injEq]; omega
  have e2 : shift s.agent.pos .R 2 = ⟨yd, xw + 1⟩ := by
    rw [hpos]; simp only [shift, Pos.ofOrient, Pos.mk.injEq]; omega
  have w := walk_then [.turnAgent, .actuateDoor, .pickndrop] (stopOf .reachExit) goalExit .R 2 s
  rw [ho, e2] at w
  apply w
  · intro k hk1 hk2
    have : k = 1 ∨ k = 2 := by omega
    rcases this with rfl | rfl
    · rw [e1]; exact room.pass_door plainKD
    · rw [e2]; exact room.pass_right plainKD ⟨hd1, hd2, by simp only; omega, by simp only; omega⟩
  · have l := lplan_rect [.turnAgent, .actuateDoor, .pickndrop] (stopOf .reachExit) goalExit
      (withPos s ⟨yd, xw + 1⟩) ⟨sh.h - 2, sh.w - 2⟩ [] d0
    simp only [withPos_o, withPos_pos, ho] at l
    refine l 0 (sh.h - 1) xw (sh.w - 1) (fun c hc => (room.pass_right plainKD (by unfold RightOf; omega)).withPos _)
      (by omega) (by omega) (goalExit_withPos (room.inRight room.exit_right) ?_)
    rw [withPos_grid, room.at_right room.exit_right, if_pos rfl]; rfl

theorem keydoor_after_pick {sh : Shape} {xw yd : Int} {s : State} (room : KDRoom sh xw yd none false s.grid)
    (hpos : LeftOf sh xw s.agent.pos) (hheld : s.agent.held = .key .yellow) (d0 : DrawSt) :
    checkPlan kdChain (stopOf .reachExit) goalExit s
      (lPlan s.agent.o s.agent.pos ⟨yd, xw - 1⟩ ++ (turnsTo s.agent.o .R ++ (.actuate ::
        (walk .R .R 2 ++ (lPlan .R ⟨yd, xw + 1⟩ ⟨sh.h - 2, sh.w - 2⟩ ++ []))))) d0 = true := by
  have hbL : LeftOf sh xw ⟨yd, xw - 1⟩ := by
    have ⟨_, _, hx1, _, hd1, hd2, _⟩ := room
    unfold LeftOf; simp only; omega
  -- to the cell left of the door, facing it
  apply room.go_face hpos hbL .R
  -- opening it
  have hfr : (⟨yd, xw - 1⟩ : Pos).add (Pos.ofOrient .R) = ⟨yd, xw⟩ := by
    simp only [Pos.add, Pos.ofOrient, Pos.mk.injEq]; omega
  exact actuate_then (stopOf .reachExit) goalExit (withO (withPos s ⟨yd, xw - 1⟩) .R) ⟨yd, xw⟩ .yellow _ d0 hfr
    room.inDoor room.at_door hheld (room.unlock.noStop_left hbL _ _) (keydoor_after_open room.unlock rfl rfl d0)

theorem planKeydoor_wins {sh : Shape} {xw yd : Int} {kp : Pos} {s : State}
    (room : KDRoom sh xw yd (some kp) false s.grid) (haL : LeftOf sh xw s.agent.pos)
    (hheld : s.agent.held = .noneObj) (d0 : DrawSt) :
    checkPlan kdChain (stopOf .reachExit) goalExit s (planKeydoor s) d0 = true := by
  have hkL : LeftOf sh xw kp := room.keyL kp rfl
  -- the plan's landmarks
  unfold planKeydoor
  simp only [room.find_key, room.find_door, room.find_exit]
  -- where the agent stands to pick the key up, and which way it faces
  generalize hstand : (if 1 < kp.y then (⟨kp.y - 1, kp.x⟩ : Pos) else ⟨kp.y + 1, kp.x⟩) = stand
  generalize hface : (if 1 < kp.y then Orient.B else Orient.F) = face
  have hsL : LeftOf sh xw stand := by
    obtain ⟨a, b, c, e⟩ := hkL
    have := room.rows
    rw [← hstand]; unfold LeftOf; split <;> (simp only; omega)
  have hfront : stand.add (Pos.ofOrient face) = kp := by
    rw [← hstand, ← hface, Pos.ext_iff']
    by_cases h : 1 < kp.y
    · simp only [h, if_true, Pos.add, Pos.ofOrient]; omega
    · simp only [h, if_false, Pos.add, Pos.ofOrient]; omega
  -- to the standing cell, facing the key
  apply room.go_face haL hsL face
  -- picking it up
  exact pick_then (stopOf .reachExit) goalExit (withO (withPos s stand) face) kp .yellow _ d0 hfront (room.inLeft hkL)
    (by rw [withO_grid, withPos_grid, room.at_left hkL, if_pos rfl]) hheld (room.pick.noStop_left hsL _ _)
    (keydoor_after_pick
      (s := ⟨s.grid.setP kp .floor, { (withO (withPos s stand) face).agent with held := .key .yellow }⟩)
      room.pick hsL rfl d0)

/-- **C14 (`keydoor`).**  For every valid shape and every stream of draws, under the shipped
dynamics `[move_agent, turn_agent, actuate_door, pickndrop]`: `planKeydoor` — fetch the key,
unlock the door, walk through, reach the exit — wins. -/
theorem C14_keydoor (sh : Shape) (d d0 : DrawSt) (hv : 4 ≤ sh.h ∧ 5 ≤ sh.w) :
    ∃ s d', resetKeydoor sh d = .ok (s, d') ∧
      checkPlan kdChain (stopOf .reachExit) goalExit s (planKeydoor s) d0 = true := by
  obtain ⟨s, d', xw, yd, yk, xk, he, hx1, hx2, hd1, hd2, hkL, haL, hheld, room⟩ := C13_keydoor_wf sh d hv
  exact ⟨s, d', he, planKeydoor_wins ⟨room, hv.1, hx1, hx2, hd1, hd2, fun p hp => Option.some.inj hp ▸ hkL⟩ haL hheld d0⟩

end GV
