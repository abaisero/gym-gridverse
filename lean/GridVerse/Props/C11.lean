/-
  C11 — Stochastic dynamics obey their rules for every random outcome.

  "For every random outcome each moving obstacle either moves to one of its four neighbouring cells
  that was floor or, only if it has none at its turn, stays; obstacles are never lost, duplicated,
  moved twice or placed on non-floor cells, and every free neighbour is a possible destination. An
  agent standing on a telepod that has a same-coloured partner is sent to one of the other telepods
  of that colour - each of them being possible - and teleportation never displaces the agent
  otherwise."

  Random outcomes are answer streams `d : DrawSt`; every theorem quantifies over all of them.
-/
import GridVerse.Lemmas.Atoms
import GridVerse.Agree.Boundary
import GridVerse.Agree.Objects
namespace GV

/-- the free neighbours are exactly the in-grid floor cells among up/right/down/left -/
theorem C11_free_neighbours (g : Grid) (p n : Pos) :
    n ∈ freeNbrs g p ↔
      (n = ⟨p.y - 1, p.x⟩ ∨ n = ⟨p.y, p.x + 1⟩ ∨ n = ⟨p.y + 1, p.x⟩ ∨ n = ⟨p.y, p.x - 1⟩) ∧
      g.contains n = true ∧ g.at n = .floor := by
  rw [mem_freeNbrs, mem_boundary1]

/-- for every random outcome the sweep follows the specification `Sweep` -/
theorem C11_obstacles_sweep (ps : List Pos) (g : Grid) (d : DrawSt) :
    Sweep ps g (obstaclesFold ps g d).1 := obstaclesFold_sweep ps g d

theorem C11_obstacles_spec (s : State) (d : DrawSt) :
    Sweep (s.grid.find fun o => o.isKind .obstacle) s.grid (moveObstacles s d).1.grid ∧
    (moveObstacles s d).1.agent = s.agent := by
  rw [moveObstacles_eq]
  exact ⟨C11_obstacles_sweep _ _ _, rfl⟩

theorem obstacleStep_attain {g : Grid} {p n : Pos} (hn : n ∈ freeNbrs g p) (rest : List Nat) :
    ∃ i, ∀ log, obstacleStep g p ⟨i :: rest, log⟩ =
      (g.swap p n, ⟨rest, log ++ [.choice (freeNbrs g p).length]⟩) := by
  obtain ⟨i, hi, hget⟩ := List.getElem_of_mem hn
  refine ⟨i, fun log => ?_⟩
  rw [obstacleStep_of_draw (drawChoice_cons _ _ _ _ hi)]
  simp only [getD_of_lt p hi, hget]

/-- every behaviour the specification allows is produced by some random outcome: in particular
every free neighbour is a possible destination -/
theorem C11_obstacles_possible (ps : List Pos) (g g' : Grid) (h : Sweep ps g g') :
    ∃ ans, ∀ log, (obstaclesFold ps g ⟨ans, log⟩).1 = g' := by
  induction h with
  | nil g => exact ⟨[], fun _ => rfl⟩
  | stay p ps g g' hnone _ ih =>
    obtain ⟨ans, hans⟩ := ih
    exact ⟨ans, fun log => by rw [obstaclesFold_cons, obstacleStep_stay hnone]; exact hans _⟩
  | move p n ps g g' hn _ ih =>
    obtain ⟨ans, hans⟩ := ih
    obtain ⟨i, hi⟩ := obstacleStep_attain hn ans
    exact ⟨i :: ans, fun log => by rw [obstaclesFold_cons, hi]; exact hans _⟩

/-- one obstacle, one free neighbour: that neighbour is attainable -/
theorem C11_every_free_neighbour_possible (g : Grid) (p n : Pos) (hn : n ∈ freeNbrs g p) :
    ∃ ans, ∀ log, (obstacleStep g p ⟨ans, log⟩).1 = g.swap p n := by
  obtain ⟨i, hi⟩ := obstacleStep_attain hn []
  exact ⟨[i], fun log => by rw [hi]⟩

/-- obstacles are never lost or duplicated, and nothing else is either -/
theorem C11_obstacles_conserved (s : State) (d : DrawSt) (hw : s.grid.WF) (p : Obj → Bool) :
    (moveObstacles s d).1.grid.count p = s.grid.count p :=
  ((C11_obstacles_spec s d).1.inv_find hw).count p

/-- only floor cells and obstacle cells ever change, into each other -/
theorem C11_obstacles_only_floor (s : State) (d : DrawSt) (hw : s.grid.WF) (q : Pos) :
    (moveObstacles s d).1.grid.at q = s.grid.at q ∨
    (s.grid.at q = .floor ∧ (moveObstacles s d).1.grid.at q = .obstacle) ∨
    (s.grid.at q = .obstacle ∧ (moveObstacles s d).1.grid.at q = .floor) :=
  ((C11_obstacles_spec s d).1.inv_find hw).cell q

/-- no obstacle is moved twice: the positions swept are pairwise distinct, each holds an obstacle
when its turn comes, and a destination is never a position still to be swept -/
theorem C11_obstacles_once (p : Pos) (ps : List Pos) (g : Grid) (hg : g.WF) (hnd : (p :: ps).Nodup)
    (hobs : ∀ q ∈ p :: ps, g.contains q = true ∧ g.at q = .obstacle) (n : Pos)
    (hn : n ∈ freeNbrs g p) :
    n ∉ p :: ps ∧ (g.swap p n).at n = .obstacle ∧ (g.swap p n).at p = .floor ∧
    ∀ q ∈ ps, (g.swap p n).contains q = true ∧ (g.swap p n).at q = .obstacle := by
  have hnf := ((mem_freeNbrs g p n).mp hn).2.2
  have hnotin : n ∉ p :: ps := by
    intro hmem
    have := (hobs n hmem).2
    rw [hnf] at this; cases this
  have hat := swap_free hg (hobs p List.mem_cons_self) hn
  have hpn : p ≠ n := fun e => hnotin (e ▸ List.mem_cons_self)
  exact ⟨hnotin, by rw [hat, if_pos rfl], by rw [hat, if_neg hpn, if_pos rfl],
    swap_free_rest hg hnd hobs hn⟩

theorem C11_obstacles_positions (s : State) :
    (s.grid.find fun o => o.isKind .obstacle).Nodup ∧
    ∀ q, q ∈ (s.grid.find fun o => o.isKind .obstacle) ↔
      (s.grid.contains q = true ∧ s.grid.at q = .obstacle) := by
  refine ⟨Grid.find_nodup _ _, fun q => ?_⟩
  rw [Grid.mem_find, isKind_obstacle]

/-- the destinations: the *other* telepods of the agent's telepod's colour -/
theorem C11_targets (s : State) (c : Color) (q : Pos) :
    q ∈ teleportTargets s c ↔
      s.grid.contains q = true ∧ q ≠ s.agent.pos ∧ (s.grid.at q).kind = .telepod ∧ (s.grid.at q).color = c := by
  simp [mem_teleportTargets, Obj.isKind]

/-- with a partner: for every random outcome the agent lands on one of the other same-coloured
telepods, keeping heading, held item and grid -/
theorem C11_teleport_paired (s : State) (d : DrawSt) (hw : s.grid.WF)
    (hc : s.grid.contains s.agent.pos = true) (c : Color) (ht : s.grid.at s.agent.pos = .telepod c)
    (hp : teleportTargets s c ≠ []) :
    ∃ s' d', teleport s d = .ok (s', d') ∧ s'.agent.pos ∈ teleportTargets s c ∧
      s'.grid = s.grid ∧ s'.agent.o = s.agent.o ∧ s'.agent.held = s.agent.held := by
  obtain ⟨q, d', hq, he⟩ :=
    teleport_paired (t := .telepod c) (ht ▸ Grid.pyGet_of_contains _ hw _ hc) rfl hp d
  exact ⟨_, d', he, hq, rfl, rfl, rfl⟩

/-- … and every one of them is a possible destination -/
theorem C11_teleport_possible (s : State) (hw : s.grid.WF) (hc : s.grid.contains s.agent.pos = true)
    (c : Color) (ht : s.grid.at s.agent.pos = .telepod c) (q : Pos) (hq : q ∈ teleportTargets s c) :
    ∃ ans, ∀ log, ∃ s' d', teleport s ⟨ans, log⟩ = .ok (s', d') ∧ s'.agent.pos = q := by
  obtain ⟨i, hi, hget⟩ := List.getElem_of_mem hq
  refine ⟨[i], fun log => ?_⟩
  rw [teleport_of_get (t := .telepod c) (ht ▸ Grid.pyGet_of_contains _ hw _ hc),
    if_pos ⟨rfl, List.ne_nil_of_mem hq⟩]
  simp only [Obj.color, drawChoice_cons _ _ _ _ hi]
  exact ⟨_, _, rfl, (getD_of_lt _ hi).trans hget⟩

/-- otherwise — not on a telepod, or no partner — nothing moves and no draw is consumed -/
theorem C11_teleport_otherwise (s : State) (d : DrawSt) (hw : s.grid.WF)
    (hc : s.grid.contains s.agent.pos = true)
    (h : (s.grid.at s.agent.pos).kind ≠ .telepod ∨ teleportTargets s (s.grid.at s.agent.pos).color = []) :
    teleport s d = .ok (s, d) := by
  rw [teleport_of_get (Grid.pyGet_of_contains _ hw _ hc), if_neg]
  rintro ⟨hk, hp⟩
  exact h.elim (fun h => h (by simpa [Obj.isKind] using hk)) hp

/-- in every case the new position is the old one or a destination telepod -/
theorem C11_teleport_spec (s s' : State) (d d' : DrawSt) (h : teleport s d = .ok (s', d')) :
    s'.grid = s.grid ∧ s'.agent.o = s.agent.o ∧ s'.agent.held = s.agent.held ∧
    (s'.agent.pos = s.agent.pos ∨
      ∃ t, s.grid.pyGet s.agent.pos = .ok t ∧ t.isKind .telepod = true ∧
        s'.agent.pos ∈ teleportTargets s t.color) := by
  rcases teleport_ok h with rfl | ⟨t, q, h1, h2, h3, rfl⟩
  · exact ⟨rfl, rfl, rfl, Or.inl rfl⟩
  · exact ⟨rfl, rfl, rfl, Or.inr ⟨t, h1, h2, h3⟩⟩

example :
    let g : Grid := ⟨2, 3, [[.obstacle, .floor, .wall], [.floor, .telepod .red, .telepod .red]]⟩
    freeNbrs g ⟨0, 0⟩ = [⟨0, 1⟩, ⟨1, 0⟩] ∧
    teleportTargets ⟨g, ⟨⟨1, 1⟩, .F, .noneObj⟩⟩ .red = [⟨1, 2⟩] := by decide +kernel

end GV
