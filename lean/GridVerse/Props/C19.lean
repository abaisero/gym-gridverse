/-
  C19 — Rays are connected paths that sweep the whole area.

  "Every ray starts at its origin cell, stays inside the area, visits each cell at most once,
  advances between adjacent (edge- or corner-sharing) cells and ends on the area's border; the fan
  of rays from any origin reaches every cell of the area, so an unobstructed ray-traced view shows
  everything. Ray computations are deterministic and unaffected by caching."

  Three layers (DESIGN §6 C19).  (1) Proved here, unbounded: the executable checkers decide exactly
  the path properties; a fan that passes them and covers the area makes every cell of an
  unobstructed view visible; `unique_everseen ∘ takewhile` of *any* sample sequence starts at the
  first sample, stays inside and has no repeated cell; a memo table never changes an answer.
  (2) Assumed and checked at run time on every ray the implementation produces: the float sample
  sequence is step-bounded and monotone (`sampleOK`) and the model's `rayOfSamples` of it equals the
  implementation's ray.  (3) Coverage itself (that the fan of `arctan2` directions reaches every
  cell) depends on libm: decided by exhaustive enumeration on the implementation — a test, labelled
  as such — with the Lean checker `coversArea` as the judge.
-/
import GridVerse.Model.Rays
import GridVerse.Lemmas.Visibility
namespace GV

/-- the path properties of one ray -/
structure RayOK (a : Area) (origin : Pos) (r : Ray) : Prop where
  start : r.head? = some origin
  inside : ∀ p ∈ r, a.contains p = true
  nodup : r.Nodup
  steps : ∀ i (h : i + 1 < r.length), adjacent (r[i]) (r[i + 1]) = true
  border : ∃ l, r.getLast? = some l ∧ onAreaBorder a l = true

theorem nodupB_iff (l : List Pos) : nodupB l = true ↔ l.Nodup := by
  induction l with
  | nil => simp [nodupB]
  | cons p ps ih => simp [nodupB, ih, List.nodup_cons]

theorem chainB_iff (rel : Pos → Pos → Bool) (l : List Pos) :
    chainB rel l = true ↔ ∀ i (h : i + 1 < l.length), rel (l[i]) (l[i + 1]) = true := by
  induction l with
  | nil => simp [chainB]
  | cons p ps ih =>
    cases ps with
    | nil => simp [chainB]
    | cons q rest =>
      simp only [chainB, Bool.and_eq_true, ih]
      -- element `i + 1` of `p :: q :: rest` is by definition element `i` of `q :: rest`
      constructor
      · rintro ⟨h1, h2⟩ i hi
        cases i with
        | zero => exact h1
        | succ j => exact h2 j (Nat.lt_of_succ_lt_succ hi)
      · intro h
        exact ⟨h 0 (Nat.succ_lt_succ (Nat.zero_lt_succ _)), fun i hi => h (i + 1) (Nat.succ_lt_succ hi)⟩

/-- the executable check decides exactly the path properties -/
theorem C19_checkRay_iff (a : Area) (origin : Pos) (r : Ray) : checkRay a origin r = true ↔ RayOK a origin r := by
  simp only [checkRay, Bool.and_eq_true, beq_iff_eq, List.all_eq_true, nodupB_iff, chainB_iff]
  constructor
  · rintro ⟨⟨⟨⟨h1, h2⟩, h3⟩, h4⟩, h5⟩
    refine ⟨h1, h2, h3, h4, ?_⟩
    cases hl : r.getLast? with
    | none => rw [hl] at h5; cases h5
    | some l => rw [hl] at h5; exact ⟨l, rfl, h5⟩
  · rintro ⟨h1, h2, h3, h4, l, hl, hb⟩
    exact ⟨⟨⟨⟨h1, h2⟩, h3⟩, h4⟩, by rw [hl]; exact hb⟩

theorem C19_checkFan_iff (a : Area) (origin : Pos) (rays : List Ray) :
    checkFan a origin rays = true ↔ rays ≠ [] ∧ ∀ r ∈ rays, RayOK a origin r := by
  simp only [checkFan, Bool.and_eq_true, Bool.not_eq_true', List.isEmpty_eq_false_iff, List.all_eq_true,
    C19_checkRay_iff]

theorem C19_covers_iff (a : Area) (rays : List Ray) :
    coversArea a rays = true ↔ ∀ p ∈ a.positions, ∃ r ∈ rays, p ∈ r := by
  simp [coversArea]

/-! ### what `unique_everseen ∘ takewhile` guarantees for *any* sample sequence -/

theorem mem_dedupFirst (seen l : List Pos) (p : Pos) :
    p ∈ dedupFirst seen l ↔ p ∈ l ∧ p ∉ seen := by
  induction l generalizing seen with
  | nil => simp [dedupFirst]
  | cons q qs ih =>
    simp only [dedupFirst]
    split
    · -- `q` is dropped, and being seen it is none of the elements claimed
      rename_i hq
      have hq : q ∈ seen := by simpa using hq
      rw [ih, List.mem_cons]
      exact ⟨fun ⟨h1, h2⟩ => ⟨Or.inr h1, h2⟩,
        fun ⟨h1, h2⟩ => ⟨h1.resolve_left fun e => h2 (e ▸ hq), h2⟩⟩
    · -- `q` is kept, and seen from here on
      rename_i hq
      have hq : q ∉ seen := by simpa using hq
      rw [List.mem_cons, ih, List.mem_cons, List.mem_cons, not_or]
      by_cases hpq : p = q
      · subst hpq
        simp only [true_or, true_and, hq, not_false_eq_true]
      · simp only [hpq, false_or, not_false_eq_true, true_and]

theorem dedupFirst_nodup (seen l : List Pos) : (dedupFirst seen l).Nodup := by
  induction l generalizing seen with
  | nil => simp [dedupFirst]
  | cons q qs ih =>
    simp only [dedupFirst]
    split
    · exact ih seen
    · exact List.nodup_cons.mpr
        ⟨fun h => ((mem_dedupFirst _ _ _).mp h).2 List.mem_cons_self, ih (q :: seen)⟩

/-- the ray computed from any sample sequence whose first sample is the (in-area) origin: starts at
the origin, stays inside the area, visits no cell twice, and visits exactly the cells sampled
before the area is left -/
theorem C19_ray_of_samples (a : Area) (origin : Pos) (rest : List Pos) (ho : a.contains origin = true) :
    (rayOfSamples a (origin :: rest)).head? = some origin ∧
    (∀ p ∈ rayOfSamples a (origin :: rest), a.contains p = true) ∧
    (rayOfSamples a (origin :: rest)).Nodup ∧
    (∀ p, p ∈ rayOfSamples a (origin :: rest) ↔ p ∈ (origin :: rest).takeWhile a.contains) := by
  have hmem : ∀ p, p ∈ rayOfSamples a (origin :: rest) ↔ p ∈ (origin :: rest).takeWhile a.contains :=
    fun p => (mem_dedupFirst [] _ p).trans (and_iff_left List.not_mem_nil)
  refine ⟨?_, fun p hp => ?_, dedupFirst_nodup _ _, hmem⟩
  · simp [rayOfSamples, List.takeWhile, ho, dedupFirst]
  · exact List.all_eq_true.mp List.all_takeWhile p ((hmem p).mp hp)

/-! ### an unobstructed ray-traced view shows everything the fan covers -/

/-- if the fan covers the area and nothing in the view blocks vision, every cell is visible -/
theorem C19_unobstructed_all_visible (g : Grid) (a : Area) (rays : List Ray)
    (hcov : coversArea a rays = true) (hin : ∀ r ∈ rays, ∀ p ∈ r, a.contains p = true)
    (ht : ∀ p, a.contains p = true → (g.at p).blocksVision = false) :
    ∀ p ∈ a.positions, visRaytracing g rays p = true := by
  intro p hp
  obtain ⟨r, hr, hpr⟩ := (C19_covers_iff a rays).mp hcov p hp
  obtain ⟨k, hk⟩ := List.getElem?_of_mem hpr
  exact (visRaytracing_iff_clear g rays p).mpr
    ⟨r, hr, k, hk, fun x hx => ht x (hin r hr x (List.mem_of_mem_take hx))⟩

/-- a checked fan makes the agent's own cell visible whatever the grid holds -/
theorem C19_origin_visible (g : Grid) (a : Area) (origin : Pos) (rays : List Ray)
    (hf : checkFan a origin rays = true) : visRaytracing g rays origin = true := by
  obtain ⟨hne, hall⟩ := (C19_checkFan_iff a origin rays).mp hf
  obtain ⟨r, hr⟩ := List.exists_mem_of_ne_nil _ hne
  exact visRaytracing_head g rays r hr origin (hall r hr).start

/-! ### caching never changes an answer -/

def Memo.Sound {K V} (f : K → V) (m : Memo K V) : Prop := ∀ kv ∈ m.entries, kv.2 = f kv.1

theorem Memo.query_sound {K V} [BEq K] [LawfulBEq K] (f : K → V) (n : Nat) (m : Memo K V) (k : K)
    (hm : m.Sound f) : (m.query f n k).1 = f k ∧ (m.query f n k).2.Sound f := by
  unfold Memo.query
  cases hl : m.entries.lookup k with
  | some v =>
    obtain ⟨l₁, l₂, he, -⟩ := List.lookup_eq_some_iff.mp hl
    exact ⟨hm (k, v) (he ▸ List.mem_append_right _ List.mem_cons_self), hm⟩
  | none =>
    refine ⟨rfl, ?_⟩
    intro kv hkv
    have := List.mem_of_mem_take hkv
    rcases List.mem_cons.mp this with rfl | h
    · rfl
    · exact hm kv h

theorem Memo.run_sound {K V} [BEq K] [LawfulBEq K] (f : K → V) (n : Nat) (m : Memo K V) (hm : m.Sound f)
    (ks : List K) : (Memo.run f n m ks).1 = ks.map f ∧ (Memo.run f n m ks).2.Sound f := by
  induction ks generalizing m with
  | nil => exact ⟨rfl, hm⟩
  | cons k ks ih =>
    obtain ⟨h1, h2⟩ := Memo.query_sound f n m k hm
    simp only [Memo.run, List.map_cons, h1, (ih _ h2).1]
    exact ⟨trivial, (ih _ h2).2⟩

/-- for any history of queries (any order, any repetitions, with eviction) every answer is the
pure function's value: ray computations are unaffected by caching -/
theorem C19_memo_correct {K V} [BEq K] [LawfulBEq K] (f : K → V) (n : Nat) (m : Memo K V) (hm : m.Sound f)
    (ks : List K) : (Memo.run f n m ks).1 = ks.map f :=
  (Memo.run_sound f n m hm ks).1

theorem C19_memo_empty_sound {K V} (f : K → V) : (⟨[]⟩ : Memo K V).Sound f := by
  intro kv h; cases h

/-! ### non-vacuity: the fan of a 2×3 view from its bottom-centre cell, as the code computes it, is accepted -/
example :
    let a : Area := ⟨0, 1, 0, 2⟩
    let rays : List Ray := [[⟨1, 1⟩, ⟨1, 0⟩], [⟨1, 1⟩, ⟨0, 0⟩], [⟨1, 1⟩, ⟨0, 1⟩], [⟨1, 1⟩, ⟨0, 2⟩], [⟨1, 1⟩, ⟨1, 2⟩]]
    checkFan a ⟨1, 1⟩ rays = true ∧ coversArea a rays = true ∧
    rayOfSamples a [⟨1, 1⟩, ⟨1, 1⟩, ⟨0, 1⟩, ⟨0, 1⟩, ⟨-1, 1⟩, ⟨0, 1⟩] = [⟨1, 1⟩, ⟨0, 1⟩] := by decide +kernel

end GV
