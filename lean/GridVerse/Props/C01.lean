/-
  C01 — Every step from a valid state is a valid transition (closure and totality).

  "For any environment assembled from the built-in reset, transition, reward, observation and
  termination components, taking any action of the action space in any state of the declared state
  space (that meets the components' documented preconditions) returns, without raising, a next
  state that is again in the state space - same grid shape, only declared object types, agent
  inside the grid, held item of a declared type - together with a finite float reward and a boolean
  termination flag, and the observation of any such state lies in the declared observation space.
  Actions outside the action space are rejected with ValueError and change nothing. The
  space-membership predicates themselves accept exactly the states and observations that conform."

  Documented preconditions, made explicit: `Floor` is a declared type when `pickndrop` is part of
  the dynamics (it leaves Floor behind); the contents of boxes are (recursively) declared when
  `actuate_box` is; the distance rewards need exactly one object of their type and
  `reach_exit_memory` needs a beacon.  Rewards are finite sums of the (finite) parameters and
  parameter × integer-distance products.
-/
import GridVerse.Props.C04
import GridVerse.Props.C05
import GridVerse.Lemmas.Atoms
import GridVerse.Props.C12
import GridVerse.Agree.Objects
import GridVerse.Agree.Actions
namespace GV

theorem colorOk_iff (colors : List Color) (c : Color) : colorOk colors c = true ↔ c = .none ∨ c ∈ colors := by
  simp only [colorOk, Bool.or_eq_true, beq_iff_eq, List.contains_eq_mem, decide_eq_true_eq]

/-- declared type and colour; with `deep`, box contents recursively as well -/
def okObj (sp : StateSpace) (deep : Bool) : Obj → Bool
  | .box c => sp.kinds.contains .box && (!deep || okObj sp deep c)
  | o => sp.kinds.contains o.kind && colorOk sp.colors o.color

/-- only a box's test differs from "declared type, declared colour" -/
theorem okObj_shallow (sp : StateSpace) (deep : Bool) (o : Obj) (h : okObj sp deep o = true) :
    sp.kinds.contains o.kind = true ∧ colorOk sp.colors o.color = true := by
  cases o with
  | box c => exact ⟨(Bool.and_eq_true_iff.mp h).1, rfl⟩
  | _ => exact Bool.and_eq_true_iff.mp h

theorem okObj_false_iff (sp : StateSpace) (o : Obj) :
    okObj sp false o = true ↔ (sp.kinds.contains o.kind = true ∧ colorOk sp.colors o.color = true) := by
  cases o with
  | box c => simp [okObj, Obj.kind, Obj.color, colorOk]
  | _ => exact Bool.and_eq_true_iff

theorem okObj_weaken {sp : StateSpace} {deep : Bool} {o : Obj} (h : okObj sp deep o = true) :
    okObj sp false o = true :=
  (okObj_false_iff sp o).mpr (okObj_shallow sp deep o h)

/-- the held item's part of the membership test: empty hand, or a declared type and colour -/
theorem okHeld_iff (sp : StateSpace) (o : Obj) :
    ((o.kind = .noneObj ∨ sp.kinds.contains o.kind = true) ∧ colorOk sp.colors o.color = true) ↔
      (o = .noneObj ∨ okObj sp false o = true) := by
  rw [okObj_false_iff]
  by_cases hn : o = .noneObj
  · subst hn; exact iff_of_true ⟨Or.inl rfl, rfl⟩ (Or.inl rfl)
  · have hk : o.kind ≠ .noneObj := fun h => hn ((isKind_noneObj o).mp (by simp [Obj.isKind, h]))
    simp only [hn, hk, false_or]

/-- a state that conforms to the space -/
structure Conf (sp : StateSpace) (deep : Bool) (s : State) : Prop where
  wf : s.grid.WF
  h : s.grid.h = sp.h
  w : s.grid.w = sp.w
  cells : ∀ q, s.grid.contains q = true → okObj sp deep (s.grid.at q) = true
  pos : s.grid.contains s.agent.pos = true
  held : s.agent.held = .noneObj ∨ okObj sp deep s.agent.held = true

/-- the membership predicate accepts exactly the conforming states (for rectangular grids — the
shape Python derives from the lists) -/
theorem C01_contains_iff (sp : StateSpace) (s : State) (hw : s.grid.WF) :
    sp.contains s = true ↔ Conf sp false s := by
  simp only [StateSpace.contains, Bool.and_eq_true, beq_iff_eq, Bool.or_eq_true]
  rw [Grid.flat_all_iff _ hw, Grid.flat_all_iff _ hw]
  constructor
  · rintro ⟨⟨⟨⟨⟨⟨e1, e2⟩, hk⟩, hc⟩, hp⟩, hh⟩, hhc⟩
    exact ⟨hw, e1, e2, fun q hq => (okObj_false_iff sp _).mpr ⟨hk q hq, hc q hq⟩, hp,
      (okHeld_iff sp _).mp ⟨hh, hhc⟩⟩
  · intro c
    have hheld := (okHeld_iff sp _).mpr c.held
    exact ⟨⟨⟨⟨⟨⟨c.h, c.w⟩, fun q hq => ((okObj_false_iff sp _).mp (c.cells q hq)).1⟩,
      fun q hq => ((okObj_false_iff sp _).mp (c.cells q hq)).2⟩, c.pos⟩, hheld.1⟩, hheld.2⟩

theorem Conf.contains {sp : StateSpace} {deep : Bool} {s : State} (c : Conf sp deep s) :
    sp.contains s = true :=
  (C01_contains_iff sp s c.wf).mpr
    ⟨c.wf, c.h, c.w, fun q hq => okObj_weaken (c.cells q hq), c.pos, c.held.imp id okObj_weaken⟩

theorem conf_setP {sp : StateSpace} {deep : Bool} {s : State} (c : Conf sp deep s) (p : Pos) (o : Obj)
    (hp : s.grid.contains p = true) (ho : okObj sp deep o = true) (ag : Agent)
    (hpos : s.grid.contains ag.pos = true) (hheld : ag.held = .noneObj ∨ okObj sp deep ag.held = true) :
    Conf sp deep ⟨s.grid.setP p o, ag⟩ := by
  refine ⟨Grid.setP_WF _ c.wf _ _, c.h, c.w, ?_, hpos, hheld⟩
  intro q hq
  simp only
  rw [Grid.at_setP _ c.wf _ _ hp]
  split
  · exact ho
  · exact c.cells q hq

theorem Step.conf {sp : StateSpace} {deep : Bool} {f s a s'} (h : Step f s a s')
    (hfloor : f = .pickndrop → sp.kinds.contains .floor = true)
    (hdeep : f = .actuateBox → deep = true) (c : Conf sp deep s) : Conf sp deep s' := by
  cases h with
  | same => exact c
  | move _ hc => exact ⟨c.wf, c.h, c.w, c.cells, hc, c.held⟩
  | turn => exact ⟨c.wf, c.h, c.w, c.cells, c.pos, c.held⟩
  | tele _ _ hq => exact ⟨c.wf, c.h, c.w, c.cells, (mem_teleportTargets.mp hq).1, c.held⟩
  | @sweep _ _ g' hs =>
    have k := hs.inv_find c.wf
    refine ⟨k.wf, k.h.trans c.h, k.w.trans c.w, fun q hq => ?_, (Grid.contains_congr k.h k.w _).trans c.pos,
      c.held⟩
    -- counts are kept, so whatever a cell holds now some cell held before
    have hpos : 0 < g'.count (fun x => x == g'.at q) :=
      (Grid.count_pos_iff _ k.wf _).mpr ⟨q, hq, by simp⟩
    rw [k.count] at hpos
    obtain ⟨q1, hq1, he⟩ := (Grid.count_pos_iff _ c.wf _).mp hpos
    have he : s.grid.at q1 = g'.at q := by simpa using he
    exact he ▸ c.cells q1 hq1
  | pnd hf =>
    refine conf_setP c _ _ hf.2.1 ?_ _ c.pos ?_
    · -- what is put down: the held object, or Floor for an empty hand
      unfold pndPut
      split
      · exact Bool.and_eq_true_iff.mpr ⟨hfloor rfl, rfl⟩
      · rename_i hn
        exact c.held.resolve_left fun h0 => hn (h0 ▸ rfl)
    · -- what is picked up: the (conforming) object in front, or nothing
      simp only [pndHeld]
      split
      · exact Or.inr (c.cells _ hf.2.1)
      · exact Or.inl rfl
  | door hf =>
    refine conf_setP c _ _ hf.inGrid ?_ _ c.pos c.held
    have hfront := c.cells _ hf.inGrid
    -- the test does not look at a door's status
    rw [hf.door] at hfront
    exact hfront
  | box hc hb =>
    refine conf_setP c _ _ hc ?_ _ c.pos c.held
    have hfront := c.cells _ hc
    have hd := hdeep rfl
    subst hd
    rw [hb] at hfront
    simp only [okObj, Bool.and_eq_true, Bool.not_true, Bool.false_or] at hfront
    exact hfront.2

/-- every primitive transition maps conforming states to conforming states, for every action and
every random outcome -/
theorem C01_atom_closed (sp : StateSpace) (deep : Bool) (f : TransAtom)
    (hfloor : f = .pickndrop → sp.kinds.contains .floor = true)
    (hdeep : f = .actuateBox → deep = true)
    (s s' : State) (a : Action) (d d' : DrawSt) (c : Conf sp deep s) (h : f.run s a d = .ok (s', d')) :
    Conf sp deep s' := (run_step h).conf hfloor hdeep c

/-- the preconditions a chain of transitions puts on the space -/
def ChainPre (sp : StateSpace) (deep : Bool) (fs : List TransAtom) : Prop :=
  (TransAtom.pickndrop ∈ fs → sp.kinds.contains .floor = true) ∧ (TransAtom.actuateBox ∈ fs → deep = true)

/-- closed *and total*: from a conforming state no sequence of transitions of a chain whose
preconditions the space meets raises, whatever the actions and the random outcome -/
theorem runAtoms_closed {sp : StateSpace} {deep : Bool} {fs : List TransAtom} (hpre : ChainPre sp deep fs) :
    ∀ (l : List (TransAtom × Action)), (∀ fa ∈ l, fa.1 ∈ fs) → ∀ (s : State) (d : DrawSt),
      Conf sp deep s → ∃ s' d', runAtoms l s d = .ok (s', d') ∧ Conf sp deep s'
  | [], _, s, d, c => ⟨s, d, rfl, c⟩
  | (f, a) :: l, hl, s, d, c => by
    have hf : f ∈ fs := hl (f, a) List.mem_cons_self
    obtain ⟨s1, d1, h1⟩ := atom_total f s a d c.wf c.pos
    obtain ⟨s', d', h2, c'⟩ := runAtoms_closed hpre l (fun fa hfa => hl fa (List.mem_cons_of_mem _ hfa)) s1 d1
      ((run_step h1).conf (fun e => hpre.1 (e ▸ hf)) (fun e => hpre.2 (e ▸ hf)) c)
    exact ⟨s', d', runAtoms_cons_ok.mpr ⟨s1, d1, h1, h2⟩, c'⟩

/-- … hence every composition is closed and total -/
theorem C01_trans_closed (sp : StateSpace) (deep : Bool) (fs : List TransAtom) (hpre : ChainPre sp deep fs)
    (s : State) (a : Action) (d : DrawSt) (c : Conf sp deep s) :
    ∃ s' d', runChain fs s a d = .ok (s', d') ∧ Conf sp deep s' := by
  rw [runChain_eq_runAtoms]
  exact runAtoms_closed hpre _ (fun _ => mem_of_mem_chainAtoms) s d c

/-- … and so is every history -/
theorem C01_history_total (sp : StateSpace) (deep : Bool) (fs : List TransAtom) (hpre : ChainPre sp deep fs)
    (acts : List Action) (s : State) (d : DrawSt) (c : Conf sp deep s) :
    ∃ s' d', runHistory fs acts s d = .ok (s', d') ∧ Conf sp deep s' := by
  rw [runHistory_eq_runAtoms]
  exact runAtoms_closed hpre _ (fun _ => mem_of_mem_historyAtoms) s d c

/-- the documented preconditions of the reward components on a transition `(s, a, s')` -/
def RewAtom.PreOK (s s' : State) : RewAtom → Prop
  | .proportional _ k _ => ∃ p, uniquePos s'.grid k = .ok p
  | .gettingCloser _ k _ _ => (∃ p, uniquePos s.grid k = .ok p) ∧ (∃ p, uniquePos s'.grid k = .ok p)
  | .gettingCloserSP k _ _ => (∃ p, uniquePos s.grid k = .ok p) ∧ (∃ p, uniquePos s'.grid k = .ok p)
  | .reachExitMemory _ _ => ∃ bp, bp ∈ s'.grid.find fun b => b.isKind .beacon
  | _ => True

/-- every built-in reward component returns a value on conforming transitions: the existence half
of its characterisation in C12 -/
theorem C01_reward_total (sp : StateSpace) (deep : Bool) (f : RewAtom) (s : State) (a : Action) (s' : State)
    (c : Conf sp deep s) (c' : Conf sp deep s') (hpre : f.PreOK s s') : ∃ t, f.eval s a s' = .ok t := by
  have hin : s'.AgentIn := ⟨c'.wf, c'.pos⟩
  cases f
  case overlap k on off => exact ⟨_, rewOverlap_eq k on off s' hin⟩
  case living r => exact ⟨_, rfl⟩
  case reachExit on off => exact ⟨_, rewOverlap_eq .exit on off s' hin⟩
  case bumpObstacle r => exact ⟨_, rewOverlap_eq .obstacle r 0 s' hin⟩
  case proportional dist k per =>
    obtain ⟨p, hp⟩ := hpre
    cases dist
    · exact ⟨_, (C12_proportional k per s a s' p hp).1⟩
    · exact ⟨_, (C12_proportional k per s a s' p hp).2⟩
  case gettingCloser dist k cl fu =>
    obtain ⟨⟨p, hp⟩, ⟨p', hp'⟩⟩ := hpre
    exact ⟨_, C12_getting_closer dist k cl fu s a s' p p' hp hp'⟩
  case gettingCloserSP k cl fu =>
    obtain ⟨⟨p, hp⟩, ⟨p', hp'⟩⟩ := hpre
    exact ⟨_, C12_getting_closer_sp k cl fu s a s' p p' hp hp'⟩
  case bumpWall r => exact ⟨_, rfl⟩
  case actuateDoor ro rc =>
    exact ⟨_, C12_actuate_door_reward ro rc s a s' c'.wf ⟨c'.h.trans c.h.symm, c'.w.trans c.w.symm⟩⟩
  case pickndrop k pi dr => exact ⟨_, rfl⟩
  case reachExitMemory g b =>
    obtain ⟨bp, hbp⟩ := hpre
    cases hfind : (s'.grid.find fun b => b.isKind .beacon) with
    | nil => rw [hfind] at hbp; cases hbp
    | cons x xs => exact ⟨_, C12_memory_reward g b s a s' hin x xs hfind⟩

theorem C01_rewards_total (sp : StateSpace) (deep : Bool) (fs : List RewAtom) (s : State) (a : Action)
    (s' : State) (c : Conf sp deep s) (c' : Conf sp deep s') (hpre : ∀ f ∈ fs, f.PreOK s s') :
    ∃ ts, rewParts fs s a s' = .ok ts ∧ ts.length = fs.length := by
  obtain ⟨ts, h⟩ := C12_sum_total fs s a s' fun f hf => C01_reward_total sp deep f s a s' c c' (hpre f hf)
  exact ⟨ts, h, (C12_sum_parts fs s a s' ts h).1⟩

theorem termOverlap_total {s' : State} (hget : ∃ o, s'.grid.pyGet s'.agent.pos = .ok o) (k : Kind) :
    ∃ b, termOverlap k s' = .ok b := by
  obtain ⟨o, ho⟩ := hget
  simp only [termOverlap, ho]
  exact ⟨_, rfl⟩

/-- Every termination function, however nested, returns a Boolean on conforming next states: for the
composites this is the existence half of `C12_any` and `C12_all`.  By the recursor of the nested
type, whose second motive says that every member of a list evaluates. -/
theorem C01_term_total (s : State) (a : Action) (s' : State)
    (hget : ∃ o, s'.grid.pyGet s'.agent.pos = .ok o) (f : TermFn) : ∃ b, f.eval s a s' = .ok b :=
  TermFn.rec (motive_1 := fun f => ∃ b, f.eval s a s' = .ok b)
    (motive_2 := fun l => ∀ f ∈ l, ∃ b, f.eval s a s' = .ok b)
    (termOverlap_total hget) (termOverlap_total hget .exit) (termOverlap_total hget .obstacle) ⟨_, rfl⟩
    (fun l ih => ⟨_, C12_any l s a s' ih⟩) (fun l ih => ⟨_, C12_all l s a s' ih⟩)
    (fun _ h => nomatch h) (fun _ _ ihf ihl => List.forall_mem_cons.mpr ⟨ihf, ihl⟩) f

theorem C01_termAny_total (s : State) (a : Action) (s' : State)
    (hget : ∃ o, s'.grid.pyGet s'.agent.pos = .ok o) : (l : List TermFn) → ∃ b, TermFn.evalAny l s a s' = .ok b :=
  fun l => by simpa only [TermFn.eval] using C01_term_total s a s' hget (.any l)

theorem C01_termAll_total (s : State) (a : Action) (s' : State)
    (hget : ∃ o, s'.grid.pyGet s'.agent.pos = .ok o) : (l : List TermFn) → ∃ b, TermFn.evalAll l s a s' = .ok b :=
  fun l => by simpa only [TermFn.eval] using C01_term_total s a s' hget (.all l)

/-- From a conforming state, for any action of the action space, with the debug checks on or off,
`functional_step` returns: a conforming next state, one reward part per reward component, a
Boolean.  (Reward preconditions are required of the transition actually taken.) -/
theorem C01_step_closed (e : EnvSpec) (deep : Bool) (hpre : ChainPre e.stateSpace deep e.trans)
    (s : State) (a : Action) (d : DrawSt) (c : Conf e.stateSpace deep s) (ha : e.actions.contains a = true)
    (hrew : ∀ s', Conf e.stateSpace deep s' → ∀ f ∈ e.rewards, f.PreOK s s') :
    ∃ r, e.functionalStep s a d = .ok r ∧ Conf e.stateSpace deep r.next ∧
      r.reward.length = e.rewards.length := by
  obtain ⟨s', d', hrun, c'⟩ := C01_trans_closed e.stateSpace deep e.trans hpre s a d c
  obtain ⟨ts, hts, hl⟩ := C01_rewards_total e.stateSpace deep e.rewards s a s' c c' (hrew s' c')
  obtain ⟨b, hb⟩ := C01_term_total s a s' ⟨_, Grid.pyGet_of_contains _ c'.wf _ c'.pos⟩ e.term
  refine ⟨⟨s', ts, b, d'⟩, ?_, c', hl⟩
  simp [EnvSpec.functionalStep, c.contains, c'.contains, ha, hrun, hts, hb]

/-- actions outside the action space are rejected with ValueError … -/
theorem C01_bad_action (e : EnvSpec) (s : State) (a : Action) (d : DrawSt)
    (hs : e.debug = true → e.stateSpace.contains s = true) (ha : e.actions.contains a = false) :
    e.functionalStep s a d = .error .valueError := by
  unfold EnvSpec.functionalStep
  by_cases hd : e.debug = true
  · simp [hd, hs hd, ha]
  · have : e.debug = false := by simpa using hd
    simp [this, ha]

/-- … and change nothing on the stateful interface -/
theorem C01_bad_action_changes_nothing (e : EnvSpec) (m : Machine) (a : Action) (s : State)
    (hst : m.state = some s) (hs : e.debug = true → e.stateSpace.contains s = true)
    (ha : e.actions.contains a = false) :
    m.exec e (.step a) = (m, .err .valueError) :=
  Machine.exec_step_error hst (C01_bad_action e s a m.d hs ha)

/-- all states along any history of an environment whose reset conforms are conforming -/
theorem C01_history (e : EnvSpec) (deep : Bool) (hpre : ChainPre e.stateSpace deep e.trans)
    (acts : List Action) (s s' : State) (d d' : DrawSt) (c : Conf e.stateSpace deep s)
    (h : runHistory e.trans acts s d = .ok (s', d')) : Conf e.stateSpace deep s' := by
  obtain ⟨s2, d2, h2, c2⟩ := C01_history_total _ deep _ hpre acts s d c
  cases h.symm.trans h2
  exact c2

/-- the observation space's membership predicate, read cell by cell (for rectangular grids) -/
theorem ObsSpace.contains_iff (sp : ObsSpace) (o : Obs) (hw : o.grid.WF) :
    sp.contains o = true ↔ o.grid.h = sp.h ∧ o.grid.w = sp.w ∧
      (∀ q, o.grid.contains q = true →
        ((o.grid.at q).kind = .hidden ∨ sp.kinds.contains (o.grid.at q).kind = true) ∧
        colorOk sp.colors (o.grid.at q).color = true) ∧
      o.grid.contains o.agent.pos = true ∧
      (o.agent.held.kind = .noneObj ∨ sp.kinds.contains o.agent.held.kind = true) ∧
      colorOk sp.colors o.agent.held.color = true := by
  simp only [ObsSpace.contains, Bool.and_eq_true, beq_iff_eq, decide_eq_true_eq, Bool.or_eq_true,
    Grid.flat_all_iff _ hw, Grid.contains_iff]
  constructor
  · rintro ⟨⟨⟨⟨⟨⟨⟨⟨⟨eh, ew⟩, hk⟩, hc⟩, y0⟩, y1⟩, x0⟩, x1⟩, hh⟩, hhc⟩
    exact ⟨eh, ew, fun q hq => ⟨hk q hq, hc q hq⟩, ⟨y0, eh ▸ y1, x0, ew ▸ x1⟩, hh, hhc⟩
  · rintro ⟨eh, ew, hcells, ⟨y0, y1, x0, x1⟩, hh, hhc⟩
    exact ⟨⟨⟨⟨⟨⟨⟨⟨⟨eh, ew⟩, fun q hq => (hcells q hq).1⟩, fun q hq => (hcells q hq).2⟩, y0⟩, eh ▸ y1⟩, x0⟩, ew ▸ x1⟩,
      hh⟩, hhc⟩

/-- observations of conforming states lie in the observation space, for any visibility function:
when the observation space has the view's shape, declares the state space's types and colours, and
the view contains the agent's cell -/
theorem C01_obs_closed (sp : StateSpace) (osp : ObsSpace) (deep : Bool) (V : Grid → Pos → Except PyErr Mask)
    (s : State) (a : Area) (ha : a.WF) (c : Conf sp deep s) (o : Obs) (h : fromVisibility V s a = .ok o)
    (hh : osp.h = a.height) (hw : osp.w = a.width)
    (hk : ∀ k, sp.kinds.contains k = true → osp.kinds.contains k = true)
    (hc : ∀ col, colorOk sp.colors col = true → colorOk osp.colors col = true)
    (hy : a.ymin ≤ 0 ∧ 0 ≤ a.ymax) (hx : a.xmin ≤ 0 ∧ 0 ≤ a.xmax) :
    osp.contains o = true := by
  obtain ⟨e1, e2, owf⟩ := C05_shape V s a ha o h
  -- a cell of the view is hidden or shows a (conforming) cell of the state's grid (C05)
  have hcells : ∀ q, o.grid.contains q = true →
      o.grid.at q = .hidden ∨ okObj sp deep (o.grid.at q) = true := by
    intro q hq
    rw [Grid.at_of_contains _ _ hq]
    exact (C05_cell V s a ha o h _ _ (e1 ▸ (Grid.toNat_lt hq).1) (e2 ▸ (Grid.toNat_lt hq).2)).imp id
      fun ⟨h1, h2⟩ => h2 ▸ c.cells _ h1
  rw [ObsSpace.contains_iff _ _ owf, C05_agent V s a o h]
  refine ⟨e1.trans hh.symm, e2.trans hw.symm, fun q hq => ⟨?_, ?_⟩, ?_, ?_, ?_⟩
  · exact (hcells q hq).imp (fun h1 => by rw [h1]; rfl) fun h1 => hk _ (okObj_shallow sp deep _ h1).1
  · rcases hcells q hq with h1 | h1
    · rw [h1]; rfl
    · exact hc _ (okObj_shallow sp deep _ h1).2
  · rw [Grid.contains_iff, e1, e2]
    simp only [Area.height, Area.width]
    omega
  · exact c.held.imp (fun h0 => by rw [h0]; rfl) fun h0 => hk _ (okObj_shallow sp deep _ h0).1
  · rcases c.held with h0 | h0
    · rw [h0]; rfl
    · exact hc _ (okObj_shallow sp deep _ h0).2

/-! ### non-vacuity: a conforming key-door state on an edge, facing outward -/
example :
    let sp : StateSpace := ⟨3, 3, [.wall, .floor, .exit, .door, .key], [.yellow]⟩
    let s : State := ⟨⟨3, 3, [[.floor, .key .yellow, .wall], [.floor, .door .locked .yellow, .exit .none],
      [.floor, .floor, .floor]]⟩, ⟨⟨0, 0⟩, .F, .key .yellow⟩⟩
    sp.contains s = true ∧ ChainPre sp false [.moveAgent, .turnAgent, .actuateDoor, .pickndrop] ∧
    (runChain [.moveAgent, .turnAgent, .actuateDoor, .pickndrop] s .moveF ⟨[], []⟩).toOption.map
      (fun r => r.1.agent.pos) = some ⟨0, 0⟩ := by
  refine ⟨by decide +kernel, ⟨fun _ => by decide +kernel, fun h => by simp at h⟩, by decide +kernel⟩

end GV
