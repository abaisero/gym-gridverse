/-
  C13 — Reset functions always produce well-formed initial states.

  "For every built-in reset function, every valid parameter combination and every seed, the initial
  state has the requested shape, an unbroken wall boundary, and the agent inside the grid,
  empty-handed, on a cell that does not block movement and is not an exit, moving obstacle or
  telepod, and contains exactly the advertised inventory (…). Parameter combinations that cannot be
  honoured raise ValueError instead of returning a malformed state or failing differently."

  Each theorem gives the *complete* cell-by-cell description of the generated grid, for every
  answer stream `d` (every seed / every resolution of the random choices).  Here: `empty`,
  `dynamic_obstacles`, `teleport`, `keydoor`, `memory`; `rooms` is in Props/C13Rooms.lean,
  `memory_rooms` in Props/C13MemoryRooms.lean, `crossing` in Props/C13Crossing.lean.
-/
import GridVerse.Lemmas.Shows
import GridVerse.Agree.Objects
namespace GV

/-- on the outer ring of an `h × w` grid -/
def onBorder (h w : Nat) (q : Pos) : Prop :=
  q.y = 0 ∨ q.y = (h : Int) - 1 ∨ q.x = 0 ∨ q.x = (w : Int) - 1
instance (h w : Nat) (q : Pos) : Decidable (onBorder h w q) := by unfold onBorder; exact inferInstance

/-- strictly inside the outer ring -/
def Interior (h w : Nat) (q : Pos) : Prop :=
  0 < q.y ∧ q.y < (h : Int) - 1 ∧ 0 < q.x ∧ q.x < (w : Int) - 1

/-- the grid of `empty`: walls on the ring, the exit at `ep`, floor elsewhere -/
def EmptyRoom (h w : Nat) (ep : Pos) (g : Grid) : Prop :=
  g.Shows h w fun q => if q = ep then .exit .none else if onBorder h w q then .wall else .floor

theorem Interior.contains {h w : Nat} {q : Pos} {g : Grid} (hq : Interior h w q) (gh : g.h = h) (gw : g.w = w) :
    g.contains q = true := by
  rw [Grid.contains_iff, gh, gw]
  obtain ⟨h1, h2, h3, h4⟩ := hq
  omega

theorem Interior.not_border {h w : Nat} {q : Pos} (hq : Interior h w q) : ¬ onBorder h w q := by
  obtain ⟨h1, h2, h3, h4⟩ := hq
  unfold onBorder; omega

theorem walled_room (h w : Nat) (hh : 1 ≤ h) (hw : 1 ≤ w) :
    ∃ g1, drawAll (Grid.fill h w .floor) (Grid.fill h w .floor).area.borderPositions .wall = .ok g1 ∧
      g1.Shows h w fun q => if onBorder h w q then .wall else .floor := by
  have hawf : (Grid.fill h w .floor).area.WF := by
    simp only [Grid.area, Grid.fill, Grid.tab_h, Grid.tab_w, Area.WF]; omega
  obtain ⟨g1, e1, s1⟩ := (Grid.Shows.fill h w .floor).drawAll (Grid.fill h w .floor).area.borderPositions .wall
    fun p hp => by rw [← Grid.area_contains]; exact ((mem_borderPositions _ hawf p).mp hp).1
  refine ⟨g1, e1, s1.congr fun q hq => ?_⟩
  have hq0 : (Grid.fill h w .floor).contains q = true := (Grid.contains_congr s1.gh s1.gw q).symm.trans hq
  simp only [mem_borderPositions _ hawf, Grid.area_contains, hq0, true_and]
  exact ite_congr rfl (fun _ => rfl) (fun _ => rfl)

theorem EmptyRoom.at_interior {h w : Nat} {ep q : Pos} {g : Grid} (room : EmptyRoom h w ep g)
    (hq : Interior h w q) (hne : q ≠ ep) : g.at q = .floor := by
  obtain ⟨_, gh, gw, hat⟩ := room
  rw [hat q (hq.contains gh gw), if_neg hne, if_neg hq.not_border]

theorem EmptyRoom.mem_floorPositions {h w : Nat} {ep : Pos} {g : Grid} (room : EmptyRoom h w ep g) (p : Pos) :
    p ∈ floorPositions g ↔ Interior h w p ∧ p ≠ ep := by
  have ⟨_, gh, gw, hat⟩ := room
  rw [GV.mem_floorPositions]
  constructor
  · rintro ⟨hpc, hfloor⟩
    rw [hat p hpc] at hfloor
    split at hfloor
    · cases hfloor
    · split at hfloor
      · cases hfloor
      · next hpe hb =>
        rw [Grid.contains_iff, gh, gw] at hpc
        unfold onBorder at hb
        exact ⟨by unfold Interior; omega, hpe⟩
  · rintro ⟨hpi, hpe⟩
    exact ⟨hpi.contains gh gw, room.at_interior hpi hpe⟩

theorem emptyExit_spec (g1 : Grid) (sh : Shape) (ra re : Bool) (d : DrawSt) (hh : 4 ≤ sh.h) (hw : 4 ≤ sh.w)
    (gh1 : g1.h = sh.h.toNat) (gw1 : g1.w = sh.w.toNat) :
    ∃ ep d1, emptyExit g1 sh ra re d = .ok (ep, d1) ∧ Interior sh.h.toNat sh.w.toNat ep ∧
      (ra = false → ep ≠ ⟨1, 1⟩) ∧ (re = false → ep = ⟨sh.h - 2, sh.w - 2⟩) := by
  cases re
  · refine ⟨⟨sh.h - 2, sh.w - 2⟩, d, rfl, ?_, ?_, fun _ => rfl⟩
    · unfold Interior; simp only; omega
    · intro _ h; have := congrArg Pos.y h; simp only at this; omega
  · -- random exit: the candidate list is non-empty ((2,2) is always a candidate)
    have hmem : (⟨2, 2⟩ : Pos) ∈ g1.area.insidePositions.filter fun p => ra || p != (⟨1, 1⟩ : Pos) := by
      simp only [List.mem_filter, mem_insidePositions, Grid.area, gh1, gw1]
      refine ⟨by omega, ?_⟩
      simp
    have hcand : ∀ x ∈ g1.area.insidePositions.filter (fun p => ra || p != (⟨1, 1⟩ : Pos)),
        Interior sh.h.toNat sh.w.toNat x ∧ (ra = false → x ≠ ⟨1, 1⟩) := by
      intro x hx
      obtain ⟨hin, hne⟩ := List.mem_filter.mp hx
      rw [mem_insidePositions] at hin
      simp only [Grid.area, gh1, gw1] at hin
      exact ⟨by unfold Interior; omega, fun hra => by simpa [hra] using hne⟩
    obtain ⟨i, d1, hc, hget⟩ := drawChoice_mem _ (⟨1, 1⟩ : Pos) (List.length_pos_of_mem hmem) d
    exact ⟨_, d1, by simp only [emptyExit, if_true, hc], (hcand _ hget).1, (hcand _ hget).2,
      fun h => Bool.noConfusion h⟩

theorem emptyAgent_spec (g2 : Grid) (h w : Nat) (ep : Pos) (ra : Bool) (d : DrawSt) (hh : 4 ≤ h) (hw : 4 ≤ w)
    (hroom : EmptyRoom h w ep g2) (hepne : ra = false → ep ≠ ⟨1, 1⟩) :
    ∃ ag d', emptyAgent g2 ra d = .ok (ag, d') ∧ Interior h w ag.pos ∧ ag.pos ≠ ep ∧ ag.held = .noneObj ∧
      (ra = false → ag.pos = ⟨1, 1⟩ ∧ ag.o = .R) := by
  cases ra
  · have h11 : Interior h w ⟨1, 1⟩ := by unfold Interior; simp only; omega
    exact ⟨⟨⟨1, 1⟩, .R, .noneObj⟩, d, rfl, h11, fun h => hepne rfl h.symm, rfl, fun _ => ⟨rfl, rfl⟩⟩
  · -- there is a floor cell: (1,1), or (2,2) if the exit is at (1,1)
    have hne : 0 < (floorPositions g2).length := by
      by_cases h1 : (⟨1, 1⟩ : Pos) = ep
      · exact List.length_pos_of_mem ((hroom.mem_floorPositions ⟨2, 2⟩).mpr
          ⟨by unfold Interior; simp only; omega, by rw [← h1, Ne, Pos.ext_iff']; simp⟩)
      · exact List.length_pos_of_mem ((hroom.mem_floorPositions ⟨1, 1⟩).mpr
          ⟨by unfold Interior; simp only; omega, h1⟩)
    obtain ⟨i, d2, hc2, hget⟩ := drawChoice_mem (floorPositions g2) ⟨1, 1⟩ hne d
    obtain ⟨k, d3, hc3, _⟩ := drawChoice_pos 4 (by omega) d2
    obtain ⟨hin, hnee⟩ := (hroom.mem_floorPositions _).mp hget
    exact ⟨⟨(floorPositions g2).getD i ⟨1, 1⟩, orientList.getD k .F, .noneObj⟩, d3,
      by simp only [emptyAgent, if_true, hc2, hc3], hin, hnee, rfl, fun h => Bool.noConfusion h⟩

/-- `empty`: well-formed for every stream when both sides are at least 4 … -/
theorem C13_empty_wf (sh : Shape) (ra re : Bool) (d : DrawSt) (hv : 4 ≤ sh.h ∧ 4 ≤ sh.w) :
    ∃ s d', resetEmpty sh ra re d = .ok (s, d') ∧ ∃ ep,
      Interior sh.h.toNat sh.w.toNat ep ∧ EmptyRoom sh.h.toNat sh.w.toNat ep s.grid ∧
      Interior sh.h.toNat sh.w.toNat s.agent.pos ∧ s.agent.pos ≠ ep ∧ s.agent.held = .noneObj ∧
      (ra = false → s.agent.pos = ⟨1, 1⟩ ∧ s.agent.o = .R) ∧
      (re = false → ep = ⟨sh.h - 2, sh.w - 2⟩) := by
  obtain ⟨hh, hw⟩ := hv
  have hcond : (decide (sh.h < 4) || decide (sh.w < 4)) = false := by simp; omega
  obtain ⟨g1, e1, s1⟩ := walled_room sh.h.toNat sh.w.toNat (by omega) (by omega)
  obtain ⟨ep, d1, hexeq, hepi, hepne, hepfix⟩ := emptyExit_spec g1 sh ra re d hh hw s1.gh s1.gw
  obtain ⟨g2, e2, hroom⟩ := s1.setE (hepi.contains s1.gh s1.gw) (.exit .none)
  obtain ⟨ag, d2, hag, hin, hne, hheld, hfix⟩ :=
    emptyAgent_spec g2 sh.h.toNat sh.w.toNat ep ra d1 (by omega) (by omega) hroom hepne
  refine ⟨⟨g2, ag⟩, d2, ?_, ep, hepi, hroom, hin, hne, hheld, hfix, hepfix⟩
  simp only [resetEmpty, hcond, Bool.false_eq_true, if_false, e1, hexeq, e2, hag]

/-- with both flags off `empty` draws nothing: the same state for every stream, the agent at (1,1)
heading `R`, the exit in the far corner (the room `keydoor`, `crossing`, `teleport` and
`dynamic_obstacles` start from) -/
theorem C13_empty_fixed (sh : Shape) (hv : 4 ≤ sh.h ∧ 4 ≤ sh.w) :
    ∃ s, (∀ d, resetEmpty sh false false d = .ok (s, d)) ∧
      EmptyRoom sh.h.toNat sh.w.toNat ⟨sh.h - 2, sh.w - 2⟩ s.grid ∧ s.agent = ⟨⟨1, 1⟩, .R, .noneObj⟩ := by
  obtain ⟨hh, hw⟩ := hv
  have hcond : (decide (sh.h < 4) || decide (sh.w < 4)) = false := by simp; omega
  obtain ⟨g1, e1, s1⟩ := walled_room sh.h.toNat sh.w.toNat (by omega) (by omega)
  obtain ⟨g2, e2, room⟩ := s1.setE (p := ⟨sh.h - 2, sh.w - 2⟩)
    (Grid.contains_inner s1.gh s1.gw (by omega) (Int.le_refl _) (by omega) (Int.le_refl _)) (.exit .none)
  refine ⟨⟨g2, ⟨⟨1, 1⟩, .R, .noneObj⟩⟩, fun d => ?_, room, rfl⟩
  simp only [resetEmpty, hcond, Bool.false_eq_true, if_false, e1, emptyExit, e2, emptyAgent]

/-- … and `ValueError` otherwise, whatever the stream -/
theorem C13_empty_rejects (sh : Shape) (ra re : Bool) (d : DrawSt) (hv : ¬ (4 ≤ sh.h ∧ 4 ≤ sh.w)) :
    resetEmpty sh ra re d = .error .valueError := by
  have : (decide (sh.h < 4) || decide (sh.w < 4)) = true := by simp; omega
  rw [resetEmpty, if_pos this]

/-- consequences in the property's own words -/
theorem C13_empty_summary (sh : Shape) (ra re : Bool) (d : DrawSt) (hv : 4 ≤ sh.h ∧ 4 ≤ sh.w) :
    ∃ s d', resetEmpty sh ra re d = .ok (s, d') ∧
      s.grid.h = sh.h.toNat ∧ s.grid.w = sh.w.toNat ∧ s.grid.WF ∧
      (∀ q, s.grid.contains q = true → onBorder s.grid.h s.grid.w q → s.grid.at q = .wall) ∧
      s.grid.contains s.agent.pos = true ∧ s.agent.held = .noneObj ∧
      s.grid.at s.agent.pos = .floor ∧
      (∃ ep, s.grid.contains ep = true ∧ ∀ q, s.grid.contains q = true →
        ((s.grid.at q).kind = .exit ↔ q = ep)) := by
  obtain ⟨s, d', he, ep, hepi, room, hai, hane, hheld, _, _⟩ := C13_empty_wf sh ra re d hv
  have ⟨wf, gh, gw, hat⟩ := room
  refine ⟨s, d', he, gh, gw, wf, ?_, hai.contains gh gw, hheld, room.at_interior hai hane, ep,
    hepi.contains gh gw, ?_⟩
  · intro q hq hb
    rw [gh, gw] at hb
    rw [hat q hq, if_neg (by rintro rfl; exact hepi.not_border hb), if_pos hb]
  · intro q hq
    rw [hat q hq]
    by_cases hqe : q = ep
    · simp [hqe, Obj.kind]
    · by_cases hb : onBorder sh.h.toNat sh.w.toNat q <;> simp [hqe, hb, Obj.kind]

/-- the cells where obstacles (or telepods) may be placed: floor cells other than the agent's (the reset
functions write this filter inline; the proofs fold it with `← vacant.eq_1`) -/
def vacant (s : State) : List Pos := (floorPositions s.grid).filter fun p => p != s.agent.pos

theorem vacant_nodup (s : State) : (vacant s).Nodup :=
  List.Pairwise.filter _ (Grid.find_nodup _ _)

theorem mem_vacant (s : State) (p : Pos) :
    p ∈ vacant s ↔ s.grid.contains p = true ∧ s.grid.at p = .floor ∧ p ≠ s.agent.pos := by
  simp only [vacant, List.mem_filter, mem_floorPositions, bne_iff_ne, ne_eq, and_assoc]

theorem vacant_contains (s : State) : ∀ p ∈ vacant s, s.grid.contains p = true :=
  fun p hp => ((mem_vacant s p).mp hp).1

/-- `dynamic_obstacles`: for shapes at least 4×4 the outcome is decided by the obstacle count — the state
`s0` that `empty` returns (fixed exit; `C13_empty_wf` describes it) with `n` obstacles on distinct floor cells
other than the agent's when `0 ≤ n ≤ #vacant`, `ValueError` otherwise — for every stream -/
theorem C13_dynamic_obstacles (sh : Shape) (n : Int) (ra : Bool) (d : DrawSt) (hv : 4 ≤ sh.h ∧ 4 ≤ sh.w) :
    ∃ s0 d0, resetEmpty sh ra false d = .ok (s0, d0) ∧
      ((0 ≤ n ∧ n ≤ (vacant s0).length) →
        ∃ s d', ∃ obs : List Pos, resetDynamicObstacles sh n ra d = .ok (s, d') ∧ s.agent = s0.agent ∧
          obs.length = n.toNat ∧ obs.Nodup ∧ (∀ p ∈ obs, p ∈ vacant s0) ∧
          s.grid.WF ∧ s.grid.h = s0.grid.h ∧ s.grid.w = s0.grid.w ∧
          ∀ q, s.grid.at q = if q ∈ obs then .obstacle else s0.grid.at q) ∧
      (¬ (0 ≤ n ∧ n ≤ (vacant s0).length) → resetDynamicObstacles sh n ra d = .error .valueError) := by
  obtain ⟨s0, d0, he, ep, _, ⟨wf0, _, _, _⟩, _⟩ := C13_empty_wf sh ra false d hv
  refine ⟨s0, d0, he, ?_, ?_⟩
  · rintro ⟨hn0, hn1⟩
    obtain ⟨idx, d1, g', obs, rfl, hc, hg', hl, hpn, hpm, wf', gh', gw', hat'⟩ :=
      scatter_spec s0.grid wf0 (vacant s0) (vacant_nodup s0) (vacant_contains s0) n.toNat (by omega) .obstacle d0
    have hneg : ¬ n < 0 := by omega
    refine ⟨{ s0 with grid := g' }, d1, _, ?_, rfl, hl, hpn, hpm, wf', gh', gw', hat'⟩
    simp only [resetDynamicObstacles, he, hneg, if_false, ← vacant.eq_1, hc, hg']
  · intro hbad
    by_cases hneg : n < 0
    · simp [resetDynamicObstacles, he, hneg]
    · simp only [resetDynamicObstacles, he, hneg, if_false, ← vacant.eq_1,
        drawChoiceNR_none_eq _ _ (show (vacant s0).length < n.toNat by omega)]

theorem C13_dynamic_obstacles_rejects_small (sh : Shape) (n : Int) (ra : Bool) (d : DrawSt)
    (hv : ¬ (4 ≤ sh.h ∧ 4 ≤ sh.w)) : resetDynamicObstacles sh n ra d = .error .valueError := by
  simp [resetDynamicObstacles, C13_empty_rejects sh ra false d hv]

/-- what the teleport room holds at `q` -/
def tpCell (sh : Shape) (t1 t2 q : Pos) : Obj :=
  if q = t1 ∨ q = t2 then .telepod .red
  else if q = ⟨sh.h - 2, sh.w - 2⟩ then .exit .none
  else if onBorder sh.h.toNat sh.w.toNat q then .wall else .floor

/-- a floor cell of the room that is neither the start nor the exit -/
def TPSpot (sh : Shape) (t : Pos) : Prop :=
  Interior sh.h.toNat sh.w.toNat t ∧ t ≠ ⟨sh.h - 2, sh.w - 2⟩ ∧ t ≠ ⟨1, 1⟩

structure TPRoom (sh : Shape) (t1 t2 : Pos) (g : Grid) : Prop where
  shows : g.Shows sh.h.toNat sh.w.toNat (tpCell sh t1 t2)
  s1 : TPSpot sh t1
  s2 : TPSpot sh t2
  ne : t1 ≠ t2

/-- `teleport`: an `empty` room (fixed exit, agent at (1,1) facing right or backward) with two red
telepods on distinct floor cells other than the agent's; at least 4×4 is needed -/
theorem C13_teleport_wf (sh : Shape) (d : DrawSt) (hv : 4 ≤ sh.h ∧ 4 ≤ sh.w) :
    ∃ s d' t1 t2, resetTeleport sh d = .ok (s, d') ∧
      s.agent.pos = ⟨1, 1⟩ ∧ (s.agent.o = .R ∨ s.agent.o = .B) ∧ s.agent.held = .noneObj ∧
      TPRoom sh t1 t2 s.grid := by
  obtain ⟨s0, he, room, hag⟩ := C13_empty_fixed sh hv
  have hpos : s0.agent.pos = ⟨1, 1⟩ := by rw [hag]
  have hvac : ∀ p, p ∈ vacant s0 ↔ TPSpot sh p := fun p => by
    simp only [vacant, List.mem_filter, room.mem_floorPositions, bne_iff_ne, hpos, TPSpot, and_assoc]
  -- (1,2) and (2,1) are vacant: interior, not the agent's (1,1), not the exit (h-2,w-2)
  have hspot : ∀ p : Pos, Interior sh.h.toNat sh.w.toNat p → p.y + p.x = 3 → p ∈ vacant s0 := fun p hpi h3 =>
    (hvac p).mpr ⟨hpi, by rw [Ne, Pos.ext_iff']; simp only; omega, by rw [Ne, Pos.ext_iff']; simp only; omega⟩
  have hlen : 2 ≤ (vacant s0).length :=
    two_le_length_of_mem (hspot ⟨1, 2⟩ (by unfold Interior; simp only; omega) rfl)
      (hspot ⟨2, 1⟩ (by unfold Interior; simp only; omega) rfl) (by decide)
  obtain ⟨k0, d1, hc0, _⟩ := drawChoice_pos 2 (by omega) d
  obtain ⟨idx, d2, g', tps, htps, hc, hg', hl, hpn, hpm, wf', gh', gw', hat'⟩ :=
    scatter_spec s0.grid room.wf (vacant s0) (vacant_nodup s0) (vacant_contains s0) 2 hlen (.telepod .red) d1
  obtain ⟨k1, d3, hc1, hk1⟩ := drawChoice_pos 2 (by omega) d2
  obtain ⟨t1, t2, rfl⟩ := two_picks tps hl
  refine ⟨⟨g', ⟨⟨1, 1⟩, [Orient.R, Orient.B].getD k1 .R, .noneObj⟩⟩, d3, t1, t2, ?_, rfl, ?_, rfl,
    (room.overlay wf' gh' gw' hat').congr fun q _ => by simp only [tpCell, List.mem_cons, List.not_mem_nil, or_false],
    (hvac t1).mp (hpm _ (by simp)), (hvac t2).mp (hpm _ (by simp)), by simpa using hpn⟩
  · simp only [resetTeleport, he, hc0, ← hpos, ← vacant.eq_1, hc, ← htps, hg', hc1]
  · have : k1 = 0 ∨ k1 = 1 := by omega
    rcases this with rfl | rfl <;> simp

theorem C13_teleport_rejects (sh : Shape) (d : DrawSt) (hv : ¬ (4 ≤ sh.h ∧ 4 ≤ sh.w)) :
    resetTeleport sh d = .error .valueError := by
  simp [resetTeleport, C13_empty_rejects sh false false ⟨[], []⟩ hv]

/-- what the key-door grid holds at `q`: `key` is where the key lies (if still on the floor) -/
def kdCell (sh : Shape) (xw yd : Int) (key : Option Pos) (dopen : Bool) (q : Pos) : Obj :=
  if some q = key then .key .yellow
  else if q = ⟨yd, xw⟩ then .door (if dopen then .open else .locked) .yellow
  else if q.x = xw ∧ 1 ≤ q.y ∧ q.y ≤ sh.h - 2 then .wall
  else if q = ⟨sh.h - 2, sh.w - 2⟩ then .exit .none
  else if onBorder sh.h.toNat sh.w.toNat q then .wall else .floor

structure KDGrid (sh : Shape) (xw yd : Int) (key : Option Pos) (dopen : Bool) (g : Grid) : Prop where
  wf : g.WF
  gh : g.h = sh.h.toNat
  gw : g.w = sh.w.toNat
  cell : ∀ q, g.contains q = true → g.at q = kdCell sh xw yd key dopen q

theorem KDGrid.shows {sh : Shape} {xw yd : Int} {key : Option Pos} {dopen : Bool} {g : Grid}
    (k : KDGrid sh xw yd key dopen g) : g.Shows sh.h.toNat sh.w.toNat (kdCell sh xw yd key dopen) :=
  ⟨k.wf, k.gh, k.gw, k.cell⟩

theorem Grid.Shows.kd {sh : Shape} {xw yd : Int} {key : Option Pos} {dopen : Bool} {g : Grid}
    (s : g.Shows sh.h.toNat sh.w.toNat (kdCell sh xw yd key dopen)) : KDGrid sh xw yd key dopen g :=
  ⟨s.wf, s.gh, s.gw, s.cell⟩

def LeftOf (sh : Shape) (xw : Int) (q : Pos) : Prop := 1 ≤ q.y ∧ q.y ≤ sh.h - 2 ∧ 1 ≤ q.x ∧ q.x < xw

def RightOf (sh : Shape) (xw : Int) (q : Pos) : Prop := 1 ≤ q.y ∧ q.y ≤ sh.h - 2 ∧ xw < q.x ∧ q.x ≤ sh.w - 2

/-- `keydoor`: valid iff at least 4 rows and 5 columns.  Then, for every stream: an `empty` room with
a wall column at `xw ∈ [2, w-3]` holding one locked yellow door, one yellow key strictly left of
the wall, the agent strictly left of the wall (possibly on the key), the exit right of it. -/
theorem C13_keydoor_wf (sh : Shape) (d : DrawSt) (hv : 4 ≤ sh.h ∧ 5 ≤ sh.w) :
    ∃ s d' xw yd yk xk, resetKeydoor sh d = .ok (s, d') ∧
      2 ≤ xw ∧ xw ≤ sh.w - 3 ∧ 1 ≤ yd ∧ yd ≤ sh.h - 2 ∧ LeftOf sh xw ⟨yk, xk⟩ ∧ LeftOf sh xw s.agent.pos ∧
      s.agent.held = .noneObj ∧ KDGrid sh xw yd (some ⟨yk, xk⟩) false s.grid := by
  obtain ⟨hh, hw⟩ := hv
  obtain ⟨s0, he, room, _⟩ := C13_empty_fixed sh ⟨hh, Int.le_trans (by decide) hw⟩
  have hcond : (decide (sh.h < 3) || decide (sh.w < 5) || (sh.h == 3 && sh.w == 5)) = false := by
    have : (sh.h == 3) = false := by simp; omega
    simp [this]; omega
  obtain ⟨xw, d1, hx, hx1, hx2⟩ := drawIntegers_some 2 (sh.w - 2) (by omega) d
  have hline : ∀ q, q ∈ (pyRange 1 (sh.h - 1)).map (fun y => (⟨y, xw⟩ : Pos)) ↔
      (q.x = xw ∧ 1 ≤ q.y ∧ q.y ≤ sh.h - 2) := by
    intro q
    simp only [List.mem_map, mem_pyRange]
    constructor
    · rintro ⟨y, hy, rfl⟩; exact ⟨rfl, hy.1, by have := hy.2; simp only; omega⟩
    · rintro ⟨h1, h2, h3⟩; exact ⟨q.y, by omega, by rw [Pos.ext_iff']; simp [h1]⟩
  -- every cell the function writes to lies left of column `w - 2`, between rows 1 and `h - 2`
  have hin : ∀ {g : Grid} {f : Pos → Obj} (y x : Int), g.Shows sh.h.toNat sh.w.toNat f → 1 ≤ y → y ≤ sh.h - 2 →
      1 ≤ x → x ≤ xw → g.contains ⟨y, x⟩ = true := fun y x s h1 h2 h3 h4 =>
    Grid.contains_inner s.gh s.gw h1 h2 h3 (by omega)
  obtain ⟨g1, hg1, s1⟩ := room.drawAll _ .wall fun p hp => by
    obtain ⟨h1, h2, h3⟩ := (hline p).mp hp
    exact hin p.y p.x room h2 h3 (by omega) (by omega)
  obtain ⟨i, d2, hc, hdoormem⟩ := drawChoice_mem ((pyRange 1 (sh.h - 1)).map (fun y => (⟨y, xw⟩ : Pos))) ⟨0, 0⟩
    (by simp only [List.length_map, pyRange, intRange, List.length_range]; omega) d1
  obtain ⟨yd, hyd, hdoorpos⟩ := List.mem_map.mp hdoormem
  rw [mem_pyRange] at hyd
  obtain ⟨g2, hg2, s2⟩ := s1.setE (hin yd xw s1 hyd.1 (by omega) (by omega) (by omega)) (.door .locked .yellow)
  obtain ⟨yk, d3, hyk, hyk1, hyk2⟩ := drawIntegers_some 1 (sh.h - 1) (by omega) d2
  obtain ⟨xk, d4, hxk, hxk1, hxk2⟩ := drawIntegers_some 1 xw (by omega) d3
  obtain ⟨g3, hg3, s3⟩ := s2.setE (hin yk xk s2 hyk1 (by omega) hxk1 (by omega)) (.key .yellow)
  obtain ⟨ya, d5, hya, hya1, hya2⟩ := drawIntegers_some 1 (sh.h - 1) (by omega) d4
  obtain ⟨xa, d6, hxa, hxa1, hxa2⟩ := drawIntegers_some 1 xw (by omega) d5
  obtain ⟨k, d7, hk, _⟩ := drawChoice_pos 4 (by omega) d6
  refine ⟨⟨g3, ⟨⟨ya, xa⟩, orientList.getD k .F, .noneObj⟩⟩, d7, xw, yd, yk, xk, ?_, hx1, by omega, hyd.1, by omega,
    ⟨hyk1, by simp only; omega, hxk1, hxk2⟩, ⟨hya1, by simp only; omega, hxa1, hxa2⟩, rfl, (s3.congr fun q _ => ?_).kd⟩
  · simp only [resetKeydoor, hcond, Bool.false_eq_true, if_false, he, hx, hg1, hc, ← hdoorpos, hg2, hyk, hxk, hg3,
      hya, hxa, hk]
  · simp only [kdCell, hline, Option.some.injEq, Bool.false_eq_true, if_false]

theorem C13_keydoor_rejects (sh : Shape) (d : DrawSt) (hv : ¬ (4 ≤ sh.h ∧ 5 ≤ sh.w)) :
    resetKeydoor sh d = .error .valueError := by
  unfold resetKeydoor
  refine guard_valueError fun c => ?_
  have hsmall : ¬ (4 ≤ sh.h ∧ 4 ≤ sh.w) := by
    simp only [Bool.or_eq_true, Bool.and_eq_true, decide_eq_true_eq, beq_iff_eq, not_or, not_and] at c
    omega
  rw [C13_empty_rejects sh false false ⟨[], []⟩ hsmall]

/-- the side check of `memory` and `crossing` passes on an odd length of at least 5 -/
theorem oddSide_ok {n : Int} (h5 : 5 ≤ n) (ho : n % 2 = 1) : (decide (n < 5) || n % 2 == 0) = false := by
  simp only [Bool.or_eq_false_iff, decide_eq_false_iff_not, beq_eq_false_iff_ne, ne_eq]; omega

/-- the floor cells of the `memory` layout: rows 1 and h-2 between the corner cells, and the
vertical corridor in the middle column -/
def memoryFloor (sh : Shape) (q : Pos) : Prop :=
  ((q.y = 1 ∨ q.y = sh.h - 2) ∧ 2 ≤ q.x ∧ q.x ≤ sh.w - 3) ∨ (q.x = sh.w / 2 ∧ 2 ≤ q.y ∧ q.y ≤ sh.h - 3)
instance (sh : Shape) (q : Pos) : Decidable (memoryFloor sh q) := by unfold memoryFloor; exact inferInstance

def MemoryValid (sh : Shape) (colors : List Color) : Prop :=
  5 ≤ sh.h ∧ 5 ≤ sh.w ∧ sh.w % 2 = 1 ∧ Color.none ∉ colors ∧ 2 ≤ colors.length

theorem mem_memoryFloorCells (sh : Shape) (q : Pos) : q ∈ memoryFloorCells sh ↔ memoryFloor sh q := by
  -- with `range`'s strict upper bounds written as `≤`, the two sides differ by distributivity only
  have e : ∀ a b : Int, a < b - 2 ↔ a ≤ b - 3 := fun a b => by omega
  simp only [memoryFloorCells, List.mem_append, mem_cartesian, mem_pyRange, List.mem_cons, List.not_mem_nil,
    or_false, memoryFloor, e, or_and_right, and_comm (b := q.x = sh.w / 2)]

theorem memoryFloor.contains {sh : Shape} {q : Pos} {g : Grid} (hq : memoryFloor sh q) (hh : 5 ≤ sh.h) (hw : 5 ≤ sh.w)
    (gh : g.h = sh.h.toNat) (gw : g.w = sh.w.toNat) : g.contains q = true := by
  unfold memoryFloor at hq
  rw [Grid.contains_iff, gh, gw]
  omega

theorem memory_corridors (sh : Shape) (hh : 5 ≤ sh.h) (hw : 5 ≤ sh.w) :
    ∃ g1, drawAll (Grid.fill sh.h.toNat sh.w.toNat .wall) (memoryFloorCells sh) .floor = .ok g1 ∧
      g1.Shows sh.h.toNat sh.w.toNat fun q => if memoryFloor sh q then .floor else .wall := by
  obtain ⟨g1, hg1, s1⟩ := (Grid.Shows.fill sh.h.toNat sh.w.toNat .wall).drawAll (memoryFloorCells sh) .floor
    fun p hp => ((mem_memoryFloorCells sh p).mp hp).contains hh hw rfl rfl
  exact ⟨g1, hg1, s1.congr fun q _ => by simp only [mem_memoryFloorCells]⟩

/-- what the `memory` grid holds at `q`, read in the order the cells are written (the last write
first): the beacons in the bottom corners, the exits at columns `xb` and `xg` of row 1, the corridors -/
def memoryCell (sh : Shape) (good bad : Color) (xg xb : Int) (q : Pos) : Obj :=
  if q = ⟨sh.h - 2, sh.w - 2⟩ then .beacon good
  else if q = ⟨sh.h - 2, 1⟩ then .beacon good
  else if q = ⟨1, xb⟩ then .exit bad
  else if q = ⟨1, xg⟩ then .exit good
  else if memoryFloor sh q then .floor else .wall

/-- `memory`: for valid parameters and every stream, the fixed T-shaped corridor layout with the
agent in the middle, two exits of *distinct* colours in the top corners and two beacons in the
bottom corners both carrying the colour of exactly one of the exits (the "good" one) -/
theorem C13_memory_wf (sh : Shape) (colors : List Color) (d : DrawSt) (hv : MemoryValid sh colors)
    (hnd : colors.Nodup) :
    ∃ s d' good bad xg xb, resetMemory sh colors d = .ok (s, d') ∧
      good ∈ colors ∧ bad ∈ colors ∧ good ≠ bad ∧
      ((xg = 1 ∧ xb = sh.w - 2) ∨ (xg = sh.w - 2 ∧ xb = 1)) ∧
      s.agent = ⟨⟨sh.h / 2, sh.w / 2⟩, .F, .noneObj⟩ ∧ memoryFloor sh s.agent.pos ∧
      s.grid.Shows sh.h.toNat sh.w.toNat (memoryCell sh good bad xg xb) := by
  obtain ⟨hh, hw, hodd, hnone, hlen⟩ := hv
  -- arithmetic first, while no disjunction is in sight of `omega`
  have h1 : (1 : Int) ≤ sh.h - 2 := by omega
  have w1 : (1 : Int) ≤ sh.w - 2 := by omega
  have hmid : 2 ≤ sh.h / 2 ∧ sh.h / 2 ≤ sh.h - 3 := by omega
  have hb : ∀ x ∈ ([1, sh.w - 2] : List Int), 1 ≤ x ∧ x ≤ sh.w - 2 := by
    intro x hx; simp only [List.mem_cons, List.not_mem_nil, or_false] at hx; omega
  obtain ⟨g1, hg1, s1⟩ := memory_corridors sh hh hw
  obtain ⟨i0, i1, d1, hci, hgm, hbm, hgb⟩ := pick_two colors .none hnd hlen d
  obtain ⟨j0, j1, d2, hxi, hxg, hxb, hne⟩ := pick_two [1, sh.w - 2] (1 : Int) (by simp; omega) (by simp) d1
  -- the model draws from `[1, w - 2].length`, which is `2` by computation
  replace hxi : drawChoiceNR 2 2 d1 = (some [j0, j1], d2) := hxi
  -- the two sampled colours and the two sampled columns, by name
  generalize egood : colors.getD i0 .none = good at *
  generalize ebad : colors.getD i1 .none = bad at *
  generalize exg : ([1, sh.w - 2] : List Int).getD j0 1 = xg at *
  generalize exb : ([1, sh.w - 2] : List Int).getD j1 1 = xb at *
  have hcols : (xg = 1 ∧ xb = sh.w - 2) ∨ (xg = sh.w - 2 ∧ xb = 1) := by
    simp only [List.mem_cons, List.not_mem_nil, or_false] at hxg hxb
    rcases hxg with e1 | e1 <;> rcases hxb with e2 | e2
    · exact absurd (e1.trans e2.symm) hne
    · exact Or.inl ⟨e1, e2⟩
    · exact Or.inr ⟨e1, e2⟩
    · exact absurd (e1.trans e2.symm) hne
  obtain ⟨g2, e2, s2⟩ := s1.setE (p := ⟨1, xg⟩)
    (Grid.contains_inner s1.gh s1.gw (Int.le_refl 1) h1 (hb xg hxg).1 (hb xg hxg).2) (.exit good)
  obtain ⟨g3, e3, s3⟩ := s2.setE (p := ⟨1, xb⟩)
    (Grid.contains_inner s2.gh s2.gw (Int.le_refl 1) h1 (hb xb hxb).1 (hb xb hxb).2) (.exit bad)
  obtain ⟨g4, e4, s4⟩ := s3.setE (p := ⟨sh.h - 2, 1⟩)
    (Grid.contains_inner s3.gh s3.gw h1 (Int.le_refl _) (Int.le_refl 1) w1) (.beacon good)
  obtain ⟨g5, e5, s5⟩ := s4.setE (p := ⟨sh.h - 2, sh.w - 2⟩)
    (Grid.contains_inner s4.gh s4.gw h1 (Int.le_refl _) w1 (Int.le_refl _)) (.beacon good)
  refine ⟨⟨g5, ⟨⟨sh.h / 2, sh.w / 2⟩, .F, .noneObj⟩⟩, d2, good, bad, xg, xb, ?_, hgm, hbm, hgb, hcols, rfl,
    Or.inr ⟨rfl, hmid⟩, s5⟩
  have n1 : ¬ sh.h < 5 := by omega
  have k3 : colors.contains .none = false := by simpa using hnone
  have n4 : ¬ colors.length < 2 := by omega
  simp only [resetMemory, n1, oddSide_ok hw hodd, k3, n4, Bool.false_eq_true, if_false, hg1, hci, hxi,
    List.getD_cons_zero, List.getD_cons_succ, egood, ebad, exg, exb, e2, e3, e4, e5]

theorem C13_memory_rejects (sh : Shape) (colors : List Color) (d : DrawSt) (hv : ¬ MemoryValid sh colors) :
    resetMemory sh colors d = .error .valueError := by
  unfold resetMemory
  refine guard_valueError fun c1 => guard_valueError fun c2 => guard_valueError fun c3 =>
    guard_valueError fun c4 => ?_
  simp only [Bool.or_eq_true, decide_eq_true_eq, beq_iff_eq, List.contains_eq_mem, not_or] at c1 c2 c3 c4
  exact absurd ⟨by omega, by omega, by omega, c3, by omega⟩ hv

end GV
