/-
  C14 for the `crossing` layout with wall rivers (continuation of Props/C14.lean): the exit is
  reachable through the openings of the sampled path.
-/
import GridVerse.Props.C13Crossing
namespace GV

/-- **C14 (`crossing`).**  For every odd shape of at least 5×5, every positive river count and every
stream of draws, with wall rivers: the reset succeeds and the exit can be reached from the agent's
cell (through the openings of the sampled path). -/
theorem C14_crossing (sh : Shape) (n : Int) (d : DrawSt)
    (hv : 5 ≤ sh.h ∧ sh.h % 2 = 1 ∧ 5 ≤ sh.w ∧ sh.w % 2 = 1 ∧ 0 < n)
    (rest : List TransAtom) (pr : PlainRest rest) :
    ∃ s d', resetCrossing sh n .wall d = .ok (s, d') ∧
      Reaches (.moveAgent :: rest) (stopOf .reachExit) goalExit s := by
  obtain ⟨g, d', H, V, g2, he, inv⟩ := crossing_reset sh n d hv
  obtain ⟨conn, hat⟩ := crossing_exit inv
  exact ⟨_, d', he, conn_reaches rest pr g inv.opened.wf ⟨sh.h - 2, sh.w - 2⟩ (by rw [hat]; rfl) ⟨1, 1⟩ conn
    (Or.inl (by rw [Ne, Pos.ext_iff']; simp only; omega)) .R .noneObj⟩

end GV
