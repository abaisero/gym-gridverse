/-
  C08 — Agent kinematics: moves and turns do exactly what the action says.

  "A move action displaces the agent by exactly one cell in the commanded direction relative to its
  heading if and only if the target cell is inside the grid and does not block movement, and
  otherwise leaves it in place; turn actions rotate the heading by a quarter turn (left then right,
  or four equal turns, restore it) and never displace, and no other action changes the pose except
  teleportation. Consequently, in every history from a valid initial state the agent is never
  outside the grid nor on a movement-blocking cell."
-/
import GridVerse.Lemmas.Atoms
import GridVerse.Props.C18
import GridVerse.Agree.Actions
import GridVerse.Agree.Orient
import GridVerse.Agree.Objects
namespace GV

/-- the agent is inside the grid on a cell that does not block movement -/
def State.Valid (s : State) : Prop :=
  s.grid.WF ∧ s.grid.contains s.agent.pos = true ∧ (s.grid.at s.agent.pos).blocksMovement = false

/-- the commanded target: one cell from the agent in direction heading∘command -/
theorem C08_target (s : State) (a : Action) (m : Orient) (h : a.moveOrient = some m) :
    nextPos s.agent.pos s.agent.o a = s.agent.pos.add ((s.agent.o.mul m).act (Pos.ofOrient .F)) ∧
    Pos.manhattan (nextPos s.agent.pos s.agent.o a) s.agent.pos = 1 := by
  constructor
  · simp [nextPos, h, ← C18_ofOrient_act]
  · exact C18_nextPos_dist _ _ _ (by simp [Action.isMove, h])

/-- a move succeeds iff the target is inside the grid and does not block movement -/
theorem C08_move_iff (s : State) (a : Action) (hm : a.isMove = true) :
    (moveAgent s a).agent.pos =
      (if s.grid.contains (nextPos s.agent.pos s.agent.o a) = true ∧
          (s.grid.at (nextPos s.agent.pos s.agent.o a)).blocksMovement = false
       then nextPos s.agent.pos s.agent.o a else s.agent.pos) := by
  rw [moveAgent_eq]
  simp only [hm, true_and]
  split <;> rfl

theorem nextPos_ne (p : Pos) (o : Orient) (a : Action) (hm : a.isMove = true) : nextPos p o a ≠ p := by
  intro h
  have := C18_nextPos_dist p o a hm
  rw [h] at this
  simp [Pos.manhattan] at this

/-- `moved ↔ inside ∧ ¬ blocking` in the literal form of the property -/
theorem C08_move_displaces_iff (s : State) (a : Action) (hm : a.isMove = true) :
    (moveAgent s a).agent.pos = nextPos s.agent.pos s.agent.o a ↔
      (s.grid.contains (nextPos s.agent.pos s.agent.o a) = true ∧
       (s.grid.at (nextPos s.agent.pos s.agent.o a)).blocksMovement = false) := by
  rw [C08_move_iff s a hm]
  split
  · rename_i hc; exact ⟨fun _ => hc, fun _ => rfl⟩
  · rename_i hc; exact ⟨fun h => absurd h.symm (nextPos_ne _ _ a hm), fun h => absurd h hc⟩

theorem C08_move_other_action (s : State) (a : Action) (h : a.isMove = false) : moveAgent s a = s := by
  simp [moveAgent, h]

theorem C08_turn (s : State) (a : Action) :
    (turnAgent s a).agent.pos = s.agent.pos ∧ (turnAgent s a).grid = s.grid ∧
    (turnAgent s a).agent.held = s.agent.held ∧
    (turnAgent s a).agent.o = (match a.turnOrient with | some t => s.agent.o.mul t | none => s.agent.o) := by
  unfold turnAgent
  cases a.turnOrient <;> exact ⟨rfl, rfl, rfl, rfl⟩

theorem C08_turn_left_right (s : State) :
    turnAgent (turnAgent s .turnL) .turnR = s ∧ turnAgent (turnAgent s .turnR) .turnL = s := by
  obtain ⟨g, ⟨p, o, hd⟩⟩ := s
  constructor <;> cases o <;> rfl

theorem C08_turn_four (s : State) (a : Action) :
    turnAgent (turnAgent (turnAgent (turnAgent s a) a) a) a = s := by
  obtain ⟨g, ⟨p, o, hd⟩⟩ := s
  cases a <;> cases o <;> rfl

theorem C08_turn_quarter (s : State) :
    (turnAgent s .turnL).agent.o = s.agent.o.mul .L ∧ (turnAgent s .turnR).agent.o = s.agent.o.mul .R ∧
    (turnAgent s .turnL).agent.o ≠ s.agent.o ∧ (turnAgent s .turnR).agent.o ≠ s.agent.o := by
  obtain ⟨g, ⟨p, o, hd⟩⟩ := s
  refine ⟨rfl, rfl, ?_, ?_⟩ <;> cases o <;> simp [turnAgent, Action.turnOrient, Orient.mul]

theorem C08_frame_moveObstacles (s : State) (d : DrawSt) : (moveObstacles s d).1.agent = s.agent := rfl

/-- only `move_agent` and `teleport` can change the position; only `turn_agent` the heading -/
theorem C08_pose_frame (f : TransAtom) (s s' : State) (a : Action) (d d' : DrawSt)
    (h : f.run s a d = .ok (s', d')) :
    (f ≠ .moveAgent → f ≠ .teleport → s'.agent.pos = s.agent.pos) ∧
    (f ≠ .turnAgent → s'.agent.o = s.agent.o) :=
  ⟨(run_step h).frame.1, (run_step h).frame.2.1⟩

theorem front_ne_pos (ag : Agent) : ag.front ≠ ag.pos := by
  rw [C18_front]; exact nextPos_ne _ _ .moveF rfl

theorem valid_setP_front (s : State) (hv : s.Valid) (o : Obj) (hc : s.grid.contains s.agent.front = true) :
    State.Valid { s with grid := s.grid.setP s.agent.front o } := by
  obtain ⟨hw, hc', hb⟩ := hv
  refine ⟨Grid.setP_WF _ hw _ _, hc', ?_⟩
  simp only
  rw [Grid.at_setP _ hw _ _ hc, if_neg (Ne.symm (front_ne_pos s.agent)), hb]

theorem Step.valid {f s a s'} (h : Step f s a s') (hv : s.Valid) : s'.Valid := by
  cases h with
  | same | turn => exact hv
  | move _ hc hb => exact ⟨hv.1, hc, hb⟩
  | pnd hf => exact valid_setP_front s hv _ hf.2.1
  | door hf => exact valid_setP_front s hv _ hf.inGrid
  | box hc => exact valid_setP_front s hv _ hc
  | sweep hs =>
    -- the agent's cell is unchanged, or an obstacle came or went: floor and obstacle do not block
    have k := hs.inv_find hv.1
    refine ⟨k.wf, (Grid.contains_congr k.h k.w _).trans hv.2.1, ?_⟩
    rcases k.cell s.agent.pos with h | ⟨_, h⟩ | ⟨_, h⟩ <;> simp only [h]
    · exact hv.2.2
    · rfl
    · rfl
  | tele _ _ hq =>
    obtain ⟨hc, _, hk, _⟩ := mem_teleportTargets.mp hq
    exact ⟨hv.1, hc, isKind_telepod_nonblocking _ hk⟩

/-- every primitive transition preserves validity, whatever the action and the random outcome -/
theorem C08_invariant_atom (f : TransAtom) (s s' : State) (a : Action) (d d' : DrawSt)
    (hv : s.Valid) (h : f.run s a d = .ok (s', d')) : s'.Valid := (run_step h).valid hv

/-- … hence every composition (`chain`) does -/
theorem C08_invariant_chain (fs : List TransAtom) (s s' : State) (a : Action) (d d' : DrawSt)
    (hv : s.Valid) (h : runChain fs s a d = .ok (s', d')) : s'.Valid :=
  runChain_inv fs (fun _ _ _ _ _ hv h => h.valid hv) s s' a d d' hv h

/-- in every history from a valid state — any chain of built-in transitions, any actions, any
random outcomes — the agent is inside the grid on a non-blocking cell -/
theorem C08_invariant_history (fs : List TransAtom) (acts : List Action) (s s' : State) (d d' : DrawSt)
    (hv : s.Valid) (h : runHistory fs acts s d = .ok (s', d')) : s'.Valid :=
  runHistory_inv fs (fun _ _ _ _ _ hv h => h.valid hv) acts s s' d d' hv h

/-- on valid states no built-in transition raises: histories never fail -/
theorem C08_total_atom (f : TransAtom) (s : State) (a : Action) (d : DrawSt) (hv : s.Valid) :
    ∃ s' d', f.run s a d = .ok (s', d') := atom_total f s a d hv.1 hv.2.1

/-! ### the behaviour before the repair, kept as a witness (see findings/F1) -/
example :
    let s : State := ⟨Grid.fill 3 3 .floor, ⟨⟨0, 1⟩, .F, .noneObj⟩⟩
    s.Valid ∧ (moveAgentUnguarded s .moveF).agent.pos = ⟨-1, 1⟩ ∧ (moveAgent s .moveF).agent.pos = ⟨0, 1⟩ := by
  refine ⟨⟨Grid.tab_WF _ _ _, by decide +kernel, by decide +kernel⟩, by decide +kernel, by decide +kernel⟩

example : (⟨⟨3, 3, [[.wall, .wall, .wall], [.wall, .floor, .door .locked .yellow], [.wall, .obstacle, .wall]]⟩,
    ⟨⟨1, 1⟩, .R, .key .yellow⟩⟩ : State).Valid := by
  exact ⟨(Grid.wfb_iff _).mp rfl, by decide +kernel, by decide +kernel⟩

end GV
