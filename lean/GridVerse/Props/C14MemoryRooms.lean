/-
  C14 for `memory_rooms` — what holds, and what does not.

  The full statement is false on the current tree (known finding F9: the exits are sampled among all
  floor cells, so a non-matching exit can separate the agent from the matching one; stepping on it
  terminates the episode without the reward).  What is proved here is the statement under exactly the
  side condition that names the finding's site: *if* the matching exit is connected to the agent
  through free cells none of which is another exit, *then* it can be reached without an earlier
  terminating step.  A `memory_rooms` state that meets the side condition and is nevertheless
  unwinnable would therefore be a different defect, and is reported as such by the check.
-/
import GridVerse.Lemmas.Conn
import GridVerse.Props.C13MemoryRooms
namespace GV

/-- the rewarded goal of the memory tasks does not depend on the agent's heading or hand -/
theorem goalMemory_at (g : Grid) (p : Pos) (o o' : Orient) (held held' : Obj) :
    goalMemory ⟨g, ⟨p, o, held⟩⟩ = goalMemory ⟨g, ⟨p, o', held'⟩⟩ := rfl

/-- **C14 (`memory_rooms`), partial.**  For every state the reset returns (for every parameter set and
stream of draws for which it succeeds, see `C13_memory_rooms_summary`; its grid is rectangular): if the
exit that matches the beacons is connected to the agent's cell through free cells that are not exits, it
can be reached under the shipped dynamics without an earlier terminating step. -/
theorem C14_memory_rooms_partial (sh : Shape) (lh lw : Int) (ys xs : List Int) (colors : List Color)
    (nb ne : Int) (d : DrawSt) (s : State) (d' : DrawSt)
    (_hreset : resetMemoryRooms sh lh lw ys xs colors nb ne d = .ok (s, d')) (wf : s.grid.WF)
    (rest : List TransAtom) (pr : PlainRest rest) (e : Pos)
    (hgoal : ∀ (o : Orient) (held : Obj), goalMemory ⟨s.grid, ⟨e, o, held⟩⟩ = true)
    (hside : ConnNoExit s.grid e s.agent.pos) :
    Reaches (.moveAgent :: rest) (stopOf .reachExit) goalMemory s :=
  path_reaches rest pr goalMemory s.grid wf e hgoal s.agent.pos hside s.agent.o s.agent.held

/-- one step from `s` either stays put, or terminates without being the goal -/
def stuckStep (s : State) (a : Action) : Bool :=
  match runChain [.moveAgent, .turnAgent] s a ⟨[], []⟩ with
  | .ok (s', _) => decide (s'.agent.pos = s.agent.pos) || (stopOf .reachExit s a s' && !goalMemory s')
  | .error _ => false

/-- the side condition cannot be dropped: in the corridor `agent, wrong exit, matching exit` (beacon
colour = colour of the far exit) the only way to the goal leads over the other exit, and stepping on it
terminates the episode without the goal: every action either stays put or loses -/
example :
    let g : Grid := ⟨2, 3, [[.floor, .exit .red, .exit .blue], [.wall, .wall, .beacon .blue]]⟩
    let s : State := ⟨g, ⟨⟨0, 0⟩, .R, .noneObj⟩⟩
    goalMemory ⟨g, ⟨⟨0, 2⟩, .R, .noneObj⟩⟩ = true ∧ goalMemory s = false ∧ ∀ a, stuckStep s a = true := by
  refine ⟨by decide, by decide, ?_⟩
  intro a
  cases a <;> decide +kernel

/-- non-vacuity of the side condition: the same corridor with the exits exchanged satisfies it -/
example :
    let g : Grid := ⟨2, 3, [[.floor, .floor, .exit .blue], [.beacon .blue, .exit .red, .wall]]⟩
    ConnNoExit g ⟨0, 2⟩ ⟨0, 0⟩ := by
  intro g
  refine .step ⟨0, 0⟩ ⟨0, 1⟩ ⟨.R, by decide⟩ ⟨by decide, by decide⟩ (Or.inr (by decide)) ?_
  exact .step ⟨0, 1⟩ ⟨0, 2⟩ ⟨.R, by decide⟩ ⟨by decide, by decide⟩ (Or.inl rfl) .refl

end GV
