/-
  C13 for the `crossing` layout with wall rivers (continuation of Props/C13.lean): what the reset
  builds (`crossing_reset`, `crossing_exit`, which Props/C14Crossing.lean also starts from) and what
  it rejects.
-/
import GridVerse.Lemmas.Crossing
namespace GV

/-- candidate rivers of one side of odd length `n ≥ 5`: the even coordinates in `[2, n-3]` -/
theorem pyRange2_bounds (n x : Int) (hn : n % 2 = 1) (hx : x ∈ pyRange2 2 (n - 2)) : 2 ≤ x ∧ x ≤ n - 3 ∧ x % 2 = 0 := by
  rw [mem_pyRange2] at hx
  obtain ⟨k, hk, rfl⟩ := hx
  omega

theorem nodup_map_snd {l : List (Bool × Int)} (hnd : l.Nodup) (b : Bool) (hb : ∀ p ∈ l, p.1 = b) :
    (l.map Prod.snd).Nodup := by
  rw [List.Nodup, List.pairwise_map]
  exact hnd.imp_of_mem fun {p q} hp hq hne h => hne (Prod.ext ((hb p hp).trans (hb q hq).symm) h)

/-- the rivers of one direction (flag `b`, selected by `f`) among distinct chosen candidates -/
theorem riversOK_of_chosen {n : Int} {chosen : List (Bool × Int)} (hnd : chosen.Nodup) (b : Bool)
    (f : Bool × Int → Bool) (hf : ∀ p, f p = true → p.1 = b)
    (hmem : ∀ p ∈ chosen, p.1 = b → 2 ≤ p.2 ∧ p.2 ≤ n - 3 ∧ p.2 % 2 = 0) :
    RiversOK n (sortInts ((chosen.filter f).map fun r => r.2)) := by
  refine ⟨sortInts_sorted _, ?_, fun x hx => ?_⟩
  · exact (sortInts_perm _).nodup_iff.mpr
      (nodup_map_snd (hnd.filter _) b (fun p hp => hf p (List.mem_filter.mp hp).2))
  · have hx' := (sortInts_perm _).subset hx
    simp only [List.mem_map, List.mem_filter] at hx'
    obtain ⟨p, ⟨hp, hp1⟩, rfl⟩ := hx'
    exact hmem p hp (hf p hp1)

/-- the candidates of `crossing`, rows tagged `true` and columns `false`: no repetition, each a possible
river of its side -/
theorem river_candidates (sh : Shape) (hh : sh.h % 2 = 1) (hw : sh.w % 2 = 1) :
    let rivers : List (Bool × Int) :=
      ((pyRange2 2 (sh.h - 2)).map fun i => (true, i)) ++ ((pyRange2 2 (sh.w - 2)).map fun j => (false, j))
    rivers.Nodup ∧ ∀ p ∈ rivers, 2 ≤ p.2 ∧ p.2 ≤ (if p.1 then sh.h else sh.w) - 3 ∧ p.2 % 2 = 0 := by
  refine ⟨List.nodup_append.mpr
    ⟨(pyRange2_nodup _ _).map _ fun a b hab h => hab (congrArg Prod.snd h),
      (pyRange2_nodup _ _).map _ fun a b hab h => hab (congrArg Prod.snd h), fun a ha b hb hab => ?_⟩, fun p hp => ?_⟩
  · obtain ⟨_, _, rfl⟩ := List.mem_map.mp ha
    obtain ⟨_, _, rfl⟩ := List.mem_map.mp hb
    cases hab
  · rcases List.mem_append.mp hp with h | h <;> obtain ⟨i, hi, rfl⟩ := List.mem_map.mp h
    · exact pyRange2_bounds sh.h i hh hi
    · exact pyRange2_bounds sh.w i hw hi

theorem rivers_ok {h w : Int} {rivers : List (Bool × Int)} (hnd : rivers.Nodup)
    (hmem : ∀ p ∈ rivers, 2 ≤ p.2 ∧ p.2 ≤ (if p.1 then h else w) - 3 ∧ p.2 % 2 = 0) (n : Nat) (d : DrawSt) :
    let chosen := (((drawShuffle rivers.length d).1.map fun i => rivers.getD i (true, 0))).take n
    RiversOK h (sortInts ((chosen.filter fun r => r.1).map fun r => r.2)) ∧
    RiversOK w (sortInts ((chosen.filter fun r => !r.1).map fun r => r.2)) := by
  intro chosen
  have hperm := shuffled_perm rivers (true, 0) d
  have hcnd : chosen.Nodup := (List.take_sublist _ _).nodup (hperm.nodup_iff.mpr hnd)
  have hc := fun p (hp : p ∈ chosen) => hmem p (hperm.subset (List.mem_of_mem_take hp))
  constructor
  · refine riversOK_of_chosen hcnd true _ (fun p hp => hp) (fun p hp hb => ?_)
    have := hc p hp
    rwa [hb] at this
  · refine riversOK_of_chosen hcnd false _ (fun p hp => by simpa using hp) (fun p hp hb => ?_)
    have := hc p hp
    rwa [hb] at this

/-- the shuffled path has one right step per vertical river and one down step per horizontal one -/
theorem path_counts (H V : List Int) (d : DrawSt) :
    let path0 := (V.map fun _ => true) ++ (H.map fun _ => false)
    let path := (drawShuffle path0.length d).1.map fun i => path0.getD i true
    path.count true = V.length ∧ path.count false = H.length := by
  intro path0 path
  have hperm : path.Perm path0 := shuffled_perm path0 true d
  have c1 : path0.count true = V.length := by
    simp [path0, List.count_append, List.map_const', List.count_replicate]
  have c2 : path0.count false = H.length := by
    simp [path0, List.count_append, List.map_const', List.count_replicate]
  exact ⟨by rw [hperm.count_eq, c1], by rw [hperm.count_eq, c2]⟩

theorem cross_base (sh : Shape) (H V : List Int) (hh : 5 ≤ sh.h) (hw : 5 ≤ sh.w)
    (rh : RiversOK sh.h H) (rv : RiversOK sh.w V) :
    ∃ s0 d0 g1 g2, resetEmpty sh false false ⟨[], []⟩ = .ok (s0, d0) ∧
      drawAll s0.grid (cartesian H (pyRange 1 (sh.w - 1))) .wall = .ok g1 ∧
      drawAll g1 (cartesian (pyRange 1 (sh.h - 1)) V) .wall = .ok g2 ∧ CrossBase sh H V g2 := by
  obtain ⟨s0, hfix, room, _⟩ := C13_empty_fixed sh ⟨by omega, by omega⟩
  obtain ⟨g1, e1, s1⟩ := room.drawAll (cartesian H (pyRange 1 (sh.w - 1))) .wall fun p hp => by
    rw [mem_cartesian, mem_pyRange] at hp
    have := rh.mem p.y hp.1
    exact (room.contains_iff p).mpr (by omega)
  obtain ⟨g2, e2, s2⟩ := s1.drawAll (cartesian (pyRange 1 (sh.h - 1)) V) .wall fun p hp => by
    rw [mem_cartesian, mem_pyRange] at hp
    have := rv.mem p.x hp.2
    exact (s1.contains_iff p).mpr (by omega)
  exact ⟨s0, _, g1, g2, hfix _, e1, e2, hh, hw, rh, rv,
    s2.congr fun q _ => by simp only [mem_cartesian, mem_pyRange, baseCell]⟩

theorem cross_inv_init {sh : Shape} {H V : List Int} {g2 : Grid} (b : CrossBase sh H V g2) :
    CrossInv sh H V g2 g2 0 0 :=
  ⟨b, .refl b.shows.wf, fun c hc => conn_rect _ _ _ _ _ (b.room_free (by omega) (by omega)) b.start hc⟩

/-- the reset succeeds, and the loop invariant holds of its grid in the last room `(|H|, |V|)` -/
theorem crossing_reset (sh : Shape) (n : Int) (d : DrawSt)
    (hv : 5 ≤ sh.h ∧ sh.h % 2 = 1 ∧ 5 ≤ sh.w ∧ sh.w % 2 = 1 ∧ 0 < n) :
    ∃ g d' H V g2, resetCrossing sh n .wall d = .ok (⟨g, ⟨⟨1, 1⟩, .R, .noneObj⟩⟩, d') ∧
      CrossInv sh H V g2 g H.length V.length := by
  obtain ⟨hh, hh2, hw, hw2, hn⟩ := hv
  have c3 : ¬ n ≤ 0 := by omega
  obtain ⟨hrnd, hrmem⟩ := river_candidates sh hh2 hw2
  generalize hrivers : (((pyRange2 2 (sh.h - 2)).map fun i => (true, i)) ++
    ((pyRange2 2 (sh.w - 2)).map fun j => (false, j)) : List (Bool × Int)) = rivers at hrnd hrmem
  have hok := rivers_ok hrnd hrmem n.toNat d
  generalize hsh : drawShuffle rivers.length d = shuf at hok
  obtain ⟨perm, d1⟩ := shuf
  simp only at hok
  generalize hH : sortInts (((perm.map fun i => rivers.getD i (true, 0)).take n.toNat |>.filter fun r => r.1).map fun r => r.2) = H at hok
  generalize hV : sortInts (((perm.map fun i => rivers.getD i (true, 0)).take n.toNat |>.filter fun r => !r.1).map fun r => r.2) = V at hok
  obtain ⟨rh, rv⟩ := hok
  obtain ⟨s0, d0, g1, g2, he0, e1, e2, base⟩ := cross_base sh H V hh hw rh rv
  have hcnt := path_counts H V d1
  simp only at hcnt
  generalize hsh2 : drawShuffle ((V.map fun _ => true) ++ (H.map fun _ => false)).length d1 = shuf2 at hcnt
  obtain ⟨perm2, d2⟩ := shuf2
  generalize hpath : (perm2.map fun i => ((V.map fun _ => true) ++ (H.map fun _ => false)).getD i true) = path at hcnt
  obtain ⟨g3, d3, hrun, inv⟩ := crossingPath_spec path 0 0 H.length V.length g2 d2 (by omega) (by omega)
    (Nat.le_refl _) (Nat.le_refl _) (cross_inv_init base)
  refine ⟨g3, d3, H, V, g2, ?_, inv⟩
  simp only [resetCrossing, oddSide_ok hh hh2, oddSide_ok hw hw2, c3, Bool.false_eq_true, if_false, he0, hrivers, hsh,
    hH, hV, Kind.default?, e1, e2, hsh2, hpath, ← limits.eq_1, hrun]

/-- the exit cell of a crossing state: in the last room, still holding the exit -/
theorem crossing_exit {sh : Shape} {H V : List Int} {g2 g : Grid} (inv : CrossInv sh H V g2 g H.length V.length) :
    Conn g ⟨1, 1⟩ ⟨sh.h - 2, sh.w - 2⟩ ∧ g.at ⟨sh.h - 2, sh.w - 2⟩ = .exit .none := by
  have hroom := inv.base.finish
  have hat2 := (inv.base.room_at (by omega) (by omega) hroom).2
  rw [if_pos rfl] at hat2
  refine ⟨inv.conn _ hroom, ?_⟩
  rcases inv.opened.cell ⟨sh.h - 2, sh.w - 2⟩ with h | ⟨_, h, _⟩
  · rw [h, hat2]
  · rw [hat2] at h; cases h

/-- **C13 (`crossing`), structure.**  The state is well formed: declared shape, closed wall boundary,
walls / floor and the single exit in the far interior corner, the agent empty-handed at (1, 1) facing
right on a floor cell. -/
theorem C13_crossing_wf (sh : Shape) (n : Int) (d : DrawSt)
    (hv : 5 ≤ sh.h ∧ sh.h % 2 = 1 ∧ 5 ≤ sh.w ∧ sh.w % 2 = 1 ∧ 0 < n) :
    ∃ s d', resetCrossing sh n .wall d = .ok (s, d') ∧
      s.grid.WF ∧ s.grid.h = sh.h.toNat ∧ s.grid.w = sh.w.toNat ∧
      s.agent = ⟨⟨1, 1⟩, .R, .noneObj⟩ ∧ s.grid.at ⟨1, 1⟩ = .floor ∧
      (∀ q, s.grid.contains q = true → onBorder sh.h.toNat sh.w.toNat q → s.grid.at q = .wall) ∧
      s.grid.at ⟨sh.h - 2, sh.w - 2⟩ = .exit .none ∧
      (∀ q, s.grid.contains q = true → q ≠ ⟨sh.h - 2, sh.w - 2⟩ → s.grid.at q = .wall ∨ s.grid.at q = .floor) := by
  obtain ⟨g, d', H, V, g2, he, inv⟩ := crossing_reset sh n d hv
  have b := inv.base
  have o := inv.opened
  have h11 : g.at ⟨1, 1⟩ = .floor := by
    have h2 := (b.room_at (by omega) (by omega) b.start).2
    rw [if_neg (by rw [Pos.ext_iff']; simp only; have := b.hh; omega)] at h2
    rcases o.cell ⟨1, 1⟩ with h | ⟨h, _, _⟩
    · rw [h, h2]
    · exact h
  refine ⟨_, d', he, o.wf, o.gh.trans b.shows.gh, o.gw.trans b.shows.gw, rfl, h11, ?_, (crossing_exit inv).2, ?_⟩
  -- a cell is a cell of the river grid, or an opened interior wall cell
  · intro q hq hb
    rcases o.cell q with h | ⟨_, _, hi⟩
    · rw [h]; exact b.border (o.contains q ▸ hq) hb
    · exact absurd hb hi.not_border
  · intro q hq hne
    rcases o.cell q with h | ⟨h, _, _⟩
    · rw [h]
      rcases b.kinds (o.contains q ▸ hq) with h' | h' | h'
      · exact Or.inl h'
      · exact Or.inr h'
      · exact absurd h' hne
    · exact Or.inr h

/-- … and the parameter checks reject everything else whatever the stream -/
theorem C13_crossing_rejects (sh : Shape) (n : Int) (k : Kind) (d : DrawSt)
    (hbad : sh.h < 5 ∨ sh.h % 2 = 0 ∨ sh.w < 5 ∨ sh.w % 2 = 0 ∨ n ≤ 0) :
    resetCrossing sh n k d = .error .valueError := by
  unfold resetCrossing
  refine guard_valueError fun c1 => guard_valueError fun c2 => guard_valueError fun c3 => ?_
  simp only [Bool.or_eq_true, decide_eq_true_eq, beq_iff_eq, not_or] at c1 c2
  omega

end GV
