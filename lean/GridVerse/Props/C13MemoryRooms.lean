/-
  C13 for `memory_rooms` (continuation of Props/C13.lean and Props/C13Rooms.lean).

  The room grid is the one of `rooms` (`roomsGrid_spec`: walls on the split rows and columns, one
  passage per shared wall segment; `RoomsGrid.border`: a closed boundary).  On top of it the function samples
  `1 + num_beacons + num_exits` distinct floor cells (agent, beacons, exits) and `num_exits` distinct
  colours; every beacon gets the first sampled colour, the i-th exit the i-th colour.  The theorems
  give the complete description of the result for every stream of draws, and the exact set of
  parameter values on which the call raises `ValueError` instead.
-/
import GridVerse.Props.C13Rooms
namespace GV

/-- the parameter checks of `memory_rooms` that do not depend on the room grid -/
def MemRoomsParams (colors : List Color) (nb ne : Int) : Prop :=
  colors.contains .none = false ∧ 2 ≤ colors.length ∧ 1 ≤ nb ∧ 2 ≤ ne

/-- **C13 (`memory_rooms`), structure.**  Whenever the room grid `g` can be built (see
`roomsGrid_spec`) and the requested objects fit — `1 + num_beacons + num_exits` floor cells and
`num_exits` colours are available — the reset succeeds for every stream of draws and returns `g` with
the agent, the beacons and the exits on pairwise distinct floor cells: all beacons carry the first
sampled colour, the exits carry pairwise distinct colours of the declared set, the first exit being
the one that matches the beacons; every other cell is a cell of `g`. -/
theorem C13_memory_rooms_wf (sh : Shape) (lh lw : Int) (ys xs : List Int) (colors : List Color)
    (nb ne : Int) (d : DrawSt) (g : Grid) (d1 : DrawSt)
    (hg : roomsGrid sh lh lw ys xs d = .ok (g, d1)) (wf : g.WF)
    (hp : MemRoomsParams colors nb ne) (hcn : colors.Nodup)
    (hfit : 1 + nb.toNat + ne.toNat ≤ (floorPositions g).length) (hcol : ne.toNat ≤ colors.length) :
    ∃ (s : State) (d' : DrawSt) (cells : List Pos) (sample : List Color),
      resetMemoryRooms sh lh lw ys xs colors nb ne d = .ok (s, d') ∧
      cells.length = 1 + nb.toNat + ne.toNat ∧ cells.Nodup ∧
      (∀ p ∈ cells, g.contains p = true ∧ g.at p = .floor) ∧
      sample.length = ne.toNat ∧ sample.Nodup ∧ (∀ c ∈ sample, c ∈ colors ∧ c ≠ .none) ∧
      s.agent.pos = cells.headD ⟨0, 0⟩ ∧ s.agent.held = .noneObj ∧
      s.grid.WF ∧ s.grid.h = g.h ∧ s.grid.w = g.w ∧
      (∀ p ∈ (cells.drop 1).take nb.toNat, s.grid.at p = .beacon (sample.headD .none)) ∧
      (∀ pc ∈ (cells.drop (1 + nb.toNat)).zip sample, s.grid.at pc.1 = .exit pc.2) ∧
      (∀ q, q ∉ cells.drop 1 → s.grid.at q = g.at q) := by
  obtain ⟨hc0, hc2, hb1, he2⟩ := hp
  obtain ⟨idx, d2, cells, hcells, e2, hcl, cnd, cmem⟩ :=
    sample_spec (floorPositions g) ⟨0, 0⟩ (Grid.find_nodup g _) _ hfit d1
  obtain ⟨k, d3, e3, _⟩ := drawChoice_pos 4 (by omega) d2
  obtain ⟨ci, d4, sample, hsample, e4, hsl, snd, smem⟩ := sample_spec colors .none hcn _ hcol d3
  -- the placement list covers `cells.drop 1`: the beacons' cells, then the exits' cells
  let beacons := ((cells.drop 1).take nb.toNat).map fun p => (p, Obj.beacon (sample.headD .none))
  let exits := ((cells.drop (1 + nb.toNat)).zip sample).map fun pc => (pc.1, Obj.exit pc.2)
  have hfst : (beacons ++ exits).map Prod.fst = cells.drop 1 := by
    have hz : ((cells.drop (1 + nb.toNat)).zip sample).map Prod.fst = cells.drop (1 + nb.toNat) :=
      List.map_fst_zip (by simp [hcl, hsl])
    simp only [beacons, exits, List.map_append, List.map_map, Function.comp_def, List.map_id']
    rw [hz, ← List.drop_drop, List.take_append_drop]
  have hdn : (cells.drop 1).Nodup := List.Nodup.sublist (List.drop_sublist 1 cells) cnd
  obtain ⟨g', eg', wf', gh', gw', hin', hout'⟩ := placeAll_spec (beacons ++ exits) g wf
    (by rw [hfst]; exact fun p hp => ((mem_floorPositions g p).mp (cmem p (List.mem_of_mem_drop hp))).1)
    (by rw [hfst]; exact hdn)
  refine ⟨⟨g', ⟨cells.headD ⟨0, 0⟩, orientList.getD k .F, .noneObj⟩⟩, d4, cells, sample, ?_, hcl, cnd,
    fun p hp => (mem_floorPositions g p).mp (cmem p hp), hsl, snd, ?_, rfl, rfl, wf', gh', gw', ?_, ?_, ?_⟩
  · simp only [resetMemoryRooms, hc0, Nat.not_lt.mpr hc2, Int.not_lt.mpr hb1, Int.not_lt.mpr he2, Bool.false_eq_true,
      if_false, hg, e2, e3, e4, ← hcells, ← hsample]
    simp only [beacons, exits] at eg'
    rw [eg']
  · intro c hc
    refine ⟨smem c hc, fun h => ?_⟩
    have : colors.contains Color.none = true := by simpa [h] using smem c hc
    rw [hc0] at this
    cases this
  · intro p hp
    exact hin' p (.beacon (sample.headD .none)) (List.mem_append_left _ (List.mem_map.mpr ⟨p, hp, rfl⟩))
  · intro pc hpc
    exact hin' pc.1 (.exit pc.2) (List.mem_append_right _ (List.mem_map.mpr ⟨pc, hpc, rfl⟩))
  · intro q hq
    exact hout' q (by rw [hfst]; exact hq)

/-- **C13 (`memory_rooms`), rejection.**  Every parameter combination that cannot be honoured raises,
whatever the stream — `ValueError` for `NONE` among the colours, fewer than two colours, no beacon, fewer
than two exits (this theorem); the room grid's own error when it cannot be built (`_rejects_grid`; which
error, `roomsGrid_rejects`); `ValueError` for more objects than floor cells or more exits than colours
(`_rejects_fit`). -/
theorem C13_memory_rooms_rejects_params (sh : Shape) (lh lw : Int) (ys xs : List Int) (colors : List Color)
    (nb ne : Int) (d : DrawSt) (hbad : ¬ MemRoomsParams colors nb ne) :
    resetMemoryRooms sh lh lw ys xs colors nb ne d = .error .valueError := by
  unfold resetMemoryRooms
  refine guard_valueError fun c1 => guard_valueError fun c2 => guard_valueError fun c3 =>
    guard_valueError fun c4 => absurd ⟨by simpa using c1, ?_, ?_, ?_⟩ hbad
  all_goals omega

theorem C13_memory_rooms_rejects_grid (sh : Shape) (lh lw : Int) (ys xs : List Int) (colors : List Color)
    (nb ne : Int) (d : DrawSt) (e : PyErr) (hp : MemRoomsParams colors nb ne)
    (hg : roomsGrid sh lh lw ys xs d = .error e) :
    resetMemoryRooms sh lh lw ys xs colors nb ne d = .error e := by
  obtain ⟨hc0, hc2, hb1, he2⟩ := hp
  simp only [resetMemoryRooms, hc0, Nat.not_lt.mpr hc2, Int.not_lt.mpr hb1, Int.not_lt.mpr he2, Bool.false_eq_true,
    if_false, hg]

theorem C13_memory_rooms_rejects_fit (sh : Shape) (lh lw : Int) (ys xs : List Int) (colors : List Color)
    (nb ne : Int) (d : DrawSt) (g : Grid) (d1 : DrawSt)
    (hg : roomsGrid sh lh lw ys xs d = .ok (g, d1))
    (hbad : (floorPositions g).length < 1 + nb.toNat + ne.toNat ∨ colors.length < ne.toNat) :
    resetMemoryRooms sh lh lw ys xs colors nb ne d = .error .valueError := by
  unfold resetMemoryRooms
  refine guard_valueError fun _ => guard_valueError fun _ => guard_valueError fun _ => guard_valueError fun _ => ?_
  simp only [hg]
  by_cases hf : (floorPositions g).length < 1 + nb.toNat + ne.toNat
  · rw [drawChoiceNR_none_eq _ _ hf]
  · -- the cells can be sampled; the colours cannot
    obtain ⟨idx, d2, e2, _⟩ := drawChoiceNR_some (floorPositions g).length (1 + nb.toNat + ne.toNat) (by omega) d1
    obtain ⟨k, d3, e3, _⟩ := drawChoice_pos 4 (by omega) d2
    simp only [e2, e3, drawChoiceNR_none_eq _ _ (show colors.length < ne.toNat by omega)]

/-- **C13 (`memory_rooms`), summary in the property's words.**  Under the hypotheses of
`roomsGrid_spec` the successful result has the requested shape, and each of its cells is an exit, a
beacon or the cell of the room grid `g` (whose boundary is walls: `RoomsGrid.border`; that exits and
beacons lie on floor cells of `g` is in `C13_memory_rooms_wf`); the agent is inside, empty-handed, on a
floor cell (so neither an exit nor a beacon); there are exactly `num_exits` exits, of pairwise distinct
colours, and every beacon's colour is the colour of exactly one of them (the first). -/
theorem C13_memory_rooms_summary (sh : Shape) (lh lw : Int) (ys xs : List Int) (colors : List Color)
    (nb ne : Int) (d : DrawSt)
    (hl : 1 ≤ lh ∧ 1 ≤ lw)
    (sy : SplitsOK sh.h ys) (sx : SplitsOK sh.w xs)
    (hp : MemRoomsParams colors nb ne) (hcn : colors.Nodup) :
    ∃ g d1, roomsGrid sh lh lw ys xs d = .ok (g, d1) ∧ RoomsGrid sh.h.toNat sh.w.toNat ys xs g ∧
      ((1 + nb.toNat + ne.toNat ≤ (floorPositions g).length ∧ ne.toNat ≤ colors.length) →
        ∃ (s : State) (d' : DrawSt) (exits : List (Pos × Color)) (good : Color),
          resetMemoryRooms sh lh lw ys xs colors nb ne d = .ok (s, d') ∧
          s.grid.WF ∧ s.grid.h = sh.h.toNat ∧ s.grid.w = sh.w.toNat ∧
          s.grid.contains s.agent.pos = true ∧ s.grid.at s.agent.pos = .floor ∧ s.agent.held = .noneObj ∧
          exits.length = ne.toNat ∧ (exits.map Prod.fst).Nodup ∧ (exits.map Prod.snd).Nodup ∧
          (exits.head?.map Prod.snd = some good) ∧
          (∀ q, s.grid.contains q = true →
            (∃ c, (q, c) ∈ exits ∧ s.grid.at q = .exit c) ∨ s.grid.at q = .beacon good ∨
            (s.grid.at q = g.at q ∧ ∀ c, (q, c) ∉ exits)) ∧
          (∀ pc ∈ exits, s.grid.at pc.1 = .exit pc.2) ∧
          good ∈ colors ∧ (∀ pc ∈ exits, pc.2 ∈ colors)) ∧
      (¬ (1 + nb.toNat + ne.toNat ≤ (floorPositions g).length ∧ ne.toNat ≤ colors.length) →
        resetMemoryRooms sh lh lw ys xs colors nb ne d = .error .valueError) := by
  obtain ⟨g, d1, eg, rg⟩ := roomsGrid_spec sh lh lw ys xs d hl sy sx
  refine ⟨g, d1, eg, rg, ?_, ?_⟩
  · rintro ⟨hfit, hcol⟩
    obtain ⟨s, d', cells, sample, he, hcl, cnd, cfl, hsl, snd, smem, hag, hheld, wf', gh', gw', hbe, hex, hout⟩ :=
      C13_memory_rooms_wf sh lh lw ys xs colors nb ne d g d1 eg rg.wf hp hcn hfit hcol
    have hne : 2 ≤ ne.toNat := by have := hp.2.2.2; omega
    -- the agent's cell and the other cells; the beacons' colour and the other colours
    obtain ⟨c0, crest, rfl⟩ := List.exists_cons_of_length_pos (l := cells) (by omega)
    obtain ⟨good, srest, rfl⟩ := List.exists_cons_of_length_pos (l := sample) (by omega)
    rw [Nat.add_comm 1 nb.toNat] at hex
    simp only [List.drop_succ_cons, List.drop_zero, List.headD_cons] at hbe hex hout hag
    rw [List.nodup_cons] at cnd
    rw [List.length_cons] at hcl
    have hdl : (crest.drop nb.toNat).length = (good :: srest).length := by rw [List.length_drop]; omega
    have hzfst : ((crest.drop nb.toNat).zip (good :: srest)).map Prod.fst = crest.drop nb.toNat :=
      List.map_fst_zip (Nat.le_of_eq hdl)
    have hc := Grid.contains_congr gh' gw'
    refine ⟨s, d', (crest.drop nb.toNat).zip (good :: srest), good, he, wf', gh'.trans rg.gh, gw'.trans rg.gw,
      ?_, ?_, hheld, ?_, ?_, ?_, ?_, ?_, hex, (smem good List.mem_cons_self).1,
      fun pc hpc => (smem pc.2 (List.of_mem_zip hpc).2).1⟩
    · rw [hag, hc]; exact (cfl c0 List.mem_cons_self).1
    · rw [hag, hout c0 cnd.1]; exact (cfl c0 List.mem_cons_self).2
    · rw [List.length_zip, hdl, Nat.min_self, hsl]
    · rw [hzfst]; exact cnd.2.sublist (List.drop_sublist _ _)
    · rw [List.map_snd_zip (Nat.le_of_eq hdl.symm)]; exact snd
    · obtain ⟨e0, erest, hde⟩ := List.exists_cons_of_length_pos (l := crest.drop nb.toNat) (hdl ▸ Nat.succ_pos _)
      rw [hde]; rfl
    · intro q hq
      by_cases hqc : q ∈ crest
      · -- one of the first `nb` of the other cells: a beacon; one of the remaining: an exit
        rw [← List.take_append_drop nb.toNat crest, List.mem_append] at hqc
        rcases hqc with hb | he'
        · exact Or.inr (Or.inl (hbe q hb))
        · rw [← hzfst] at he'
          obtain ⟨pc, hpc, rfl⟩ := List.mem_map.mp he'
          exact Or.inl ⟨pc.2, hpc, hex pc hpc⟩
      · exact Or.inr (Or.inr ⟨hout q hqc, fun c hmem => hqc (List.mem_of_mem_drop (List.of_mem_zip hmem).1)⟩)
  · intro hbad
    apply C13_memory_rooms_rejects_fit sh lh lw ys xs colors nb ne d g d1 eg
    omega

/-- non-vacuity: a 7×7 parameter set with the shipped layout 2×2 (here three colours, 3 beacons, 2 exits)
meets the hypotheses, and the reset succeeds on the all-zero stream -/
example : MemRoomsParams [.red, .green, .blue] 3 2 ∧ SplitsOK 7 [0, 3, 6] ∧ tooClose [0, 3, 6] = false ∧
    (resetMemoryRooms ⟨7, 7⟩ 2 2 [0, 3, 6] [0, 3, 6] [.red, .green, .blue] 3 2 ⟨[], []⟩).toBool = true := by
  exact ⟨⟨by decide, by decide, by decide, by decide⟩, (splitsOKb_iff _ _).mp (by decide), by decide, by decide +kernel⟩

end GV
