/-
  C20 — The gym adapter is a faithful view of the wrapped environment.

  "At the gym layer, action index i executes the i-th action of the action space; reset returns the
  observation of the fresh state and step returns the observation of the post-step state together
  with the inner reward and termination flag, all inside the advertised gym spaces. The state
  wrapper returns the state representation instead and passes the observation through the info
  dictionary, and switching representation updates the advertised space consistently."

  The adapter is delegation; these theorems pin the delegation down (which state each returned
  array is the representation of).  What ties `gymReset` / `gymStep` to `gym.py` is the gym-history
  correspondence.  "Inside the advertised spaces" is C15 for the representations returned; it is not
  restated here.
-/
import GridVerse.Props.C04
import GridVerse.Agree.Actions
namespace GV

/-- action index `i` is the `i`-th action of the action space (Python indexing) -/
theorem C20_action_index (acts : List Action) (i : Nat) (h : i < acts.length) :
    (ActionSpace.mk acts).intToAction i = .ok acts[i] := by
  simp [ActionSpace.intToAction, pyIdx, h]

theorem C20_action_index_out_of_range (acts : List Action) (i : Int)
    (h : (acts.length : Int) ≤ i ∨ i < -(acts.length : Int)) :
    (ActionSpace.mk acts).intToAction i = .error .indexError := by
  simp only [ActionSpace.intToAction, pyIdx]
  rcases h with h | h
  · have h0 : 0 ≤ i := by omega
    have : acts[i.toNat]? = none := by
      apply List.getElem?_eq_none; omega
    simp [h0, this]
  · have h0 : ¬ 0 ≤ i := by omega
    have h1 : ¬ -(acts.length : Int) ≤ i := by omega
    simp [h0, h1]

theorem outerObs_fresh {Rep} {e : EnvSpec} {o : OuterSpec Rep} {f : Obs → Except PyErr Rep} (hf : o.obsRep = some f)
    {s : State} {d1 : DrawSt} {ob : Obs} {d2 : DrawSt} (ho : e.functionalObservation s d1 = .ok (ob, d2)) :
    outerObs e o ⟨some s, none, d1⟩ =
      (⟨some s, some ob, d2⟩, match f ob with | .ok r => .rep r | .error err => .err err) := by
  rw [outerObs_eq, hf, (C04_read_computes e ⟨some s, none, d1⟩ s rfl rfl).2 ob d2 ho]
  rfl

/-- `reset`: the returned array is the representation of the observation of the fresh state; the
machine afterwards holds that state with that observation memoised -/
theorem C20_reset {Rep} (e : EnvSpec) (o : OuterSpec Rep) (m : Machine) (f : Obs → Except PyErr Rep)
    (hf : o.obsRep = some f) (s : State) (d1 : DrawSt) (hr : e.functionalReset m.d = .ok (s, d1))
    (ob : Obs) (d2 : DrawSt) (ho : e.functionalObservation s d1 = .ok (ob, d2)) (r : Rep)
    (hc : f ob = .ok r) :
    gymReset e o m = (⟨some s, some ob, d2⟩, .reset r) := by
  simp only [gymReset, C04_reset_is_functional e m s d1 hr, outerObs_fresh hf ho, hc]

/-- `step i`: runs the inner step with the `i`-th action; returns the representation of the
observation of the post-step state, the inner reward and the inner termination flag -/
theorem C20_step {Rep} (e : EnvSpec) (o : OuterSpec Rep) (m : Machine) (f : Obs → Except PyErr Rep)
    (hf : o.obsRep = some f) (i : Int) (a : Action) (ha : e.actions.intToAction i = .ok a)
    (s : State) (hs : m.state = some s) (res : StepResult) (hstep : e.functionalStep s a m.d = .ok res)
    (ob : Obs) (d2 : DrawSt) (ho : e.functionalObservation res.next res.d = .ok (ob, d2)) (r : Rep)
    (hc : f ob = .ok r) :
    gymStep e o m i = (⟨some res.next, some ob, d2⟩, .step r res.reward res.terminal) := by
  simp only [gymStep, ha, C04_step_is_functional e m s a res hs hstep,
    outerObs_fresh hf ho, hc]

/-- a bad index never reaches the environment -/
theorem C20_step_bad_index {Rep} (e : EnvSpec) (o : OuterSpec Rep) (m : Machine) (i : Int)
    (err : PyErr) (ha : e.actions.intToAction i = .error err) : gymStep e o m i = (m, .err err) := by
  simp [gymStep, ha]

/-- the state wrapper: the state representation of the post-step state, the observation
representation in `info['observation']`, same reward and flag -/
theorem C20_state_wrapper {Rep} (e : EnvSpec) (o : OuterSpec Rep) (m : Machine)
    (f : Obs → Except PyErr Rep) (g : State → Except PyErr Rep) (hf : o.obsRep = some f)
    (hg : o.stateRep = some g) (i : Int) (a : Action) (ha : e.actions.intToAction i = .ok a)
    (s : State) (hs : m.state = some s) (res : StepResult) (hstep : e.functionalStep s a m.d = .ok res)
    (ob : Obs) (d2 : DrawSt) (ho : e.functionalObservation res.next res.d = .ok (ob, d2))
    (r rs : Rep) (hc : f ob = .ok r) (hcs : g res.next = .ok rs) :
    gymStateStep e o m i =
      (⟨some res.next, some ob, d2⟩, .stateStep rs res.reward res.terminal r) := by
  simp only [gymStateStep, C20_step e o m f hf i a ha s hs res hstep ob d2 ho r hc,
    C04_outer_state e o ⟨some res.next, some ob, d2⟩ res.next g hg rfl, hcs]

/-- the state wrapper's `reset`: the state representation of the fresh state (the observation is
computed and memoised on the way, exactly as the wrapped `reset` does) -/
theorem C20_state_wrapper_reset {Rep} (e : EnvSpec) (o : OuterSpec Rep) (m : Machine)
    (f : Obs → Except PyErr Rep) (g : State → Except PyErr Rep) (hf : o.obsRep = some f)
    (hg : o.stateRep = some g) (s : State) (d1 : DrawSt) (hr : e.functionalReset m.d = .ok (s, d1))
    (ob : Obs) (d2 : DrawSt) (ho : e.functionalObservation s d1 = .ok (ob, d2)) (r rs : Rep)
    (hc : f ob = .ok r) (hcs : g s = .ok rs) :
    gymStateReset e o m = (⟨some s, some ob, d2⟩, .reset rs) := by
  simp only [gymStateReset, C20_reset e o m f hf s d1 hr ob d2 ho r hc, C04_outer_state e o ⟨some s, some ob, d2⟩ s g hg rfl, hcs]

/-- switching representation: subsequent returns are conversions by the new representation (the
advertised space is rebuilt from the same representation object, C15 gives membership) -/
theorem C20_set_representation {Rep} (e : EnvSpec) (o : OuterSpec Rep) (f' : Obs → Except PyErr Rep)
    (m : Machine) (ob : Obs) (hm : m.obs = some ob) (r : Rep) (hc : f' ob = .ok r) :
    outerObs e { o with obsRep := some f' } m = (m, .rep r) := by
  simp only [outerObs, C04_memo_no_draw e m ob hm, hc]

example : (ActionSpace.mk [.moveF, .turnL, .actuate]).intToAction 2 = .ok .actuate ∧
    (ActionSpace.mk [.moveF, .turnL, .actuate]).intToAction 3 = .error .indexError ∧
    (ActionSpace.mk [.moveF, .turnL, .actuate]).intToAction (-1) = .ok .actuate := ⟨rfl, rfl, rfl⟩

end GV
