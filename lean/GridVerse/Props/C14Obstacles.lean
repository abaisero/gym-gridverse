/-
  C14 for the shipped `dynamic_obstacles` parameter sets (5×5 with one obstacle, 7×7 with two, fixed
  agent), under the shipped dynamics `[move_agent, turn_agent, move_obstacles]` and the shipped
  termination `reduce_any [reach_exit, bump_moving_obstacle, bump_into_wall]`.

  Winnability here is stochastic: the obstacles move on every step.  `Reaches` asks for *some* actions
  and *some* resolution of the draws.  The reset can only produce finitely many layouts (the obstacle
  cells are picked by index among the vacant cells); for each of them a winning (actions, draws)
  certificate — found once by a model-side search (Tools/GenObstacleCerts.lean) and stored in
  `C14ObstaclesData.lean` — is re-run by the kernel, on the sparse game of `Lemmas/ObstacleGame.lean`;
  `roomCert_sound` (`Lemmas/ObstacleRoom.lean`) turns acceptance there into acceptance by the model's own `checkPlan`.
  The general statement (any shape, any number of obstacles) is false: see known finding F11.
-/
import GridVerse.Lemmas.ObstacleRoom
import GridVerse.Props.C14
import GridVerse.Props.C14ObstaclesCk
namespace GV

theorem certOK_reaches (s0 : State) (row : List Nat × (List Action × List Nat)) (h : certOK s0 row = true) :
    ∃ s, obstacleState s0 row.1 = .ok s ∧ Reaches obsChain obsStop goalExit s := by
  unfold certOK at h
  cases hs : obstacleState s0 row.1 with
  | error e => rw [hs] at h; cases h
  | ok s =>
    rw [hs] at h
    exact ⟨s, rfl, C14_certificate_sound _ _ _ _ _ _ h⟩

theorem reset_is_obstacleState (sh : Shape) (n : Nat) (d : DrawSt)
    (hroom : resetEmpty sh false false d = .ok (room sh, d)) (hn : n ≤ (vacant (room sh)).length) :
    ∃ idx d', idx.length = n ∧ idx.Nodup ∧ (∀ i ∈ idx, i < (vacant (room sh)).length) ∧
      resetDynamicObstacles sh n false d =
        (match obstacleState (room sh) idx with | .ok s => .ok (s, d') | .error e => .error e) := by
  obtain ⟨idx, d1, hc, hl, hnd, hlt⟩ := drawChoiceNR_some (vacant (room sh)).length n hn d
  refine ⟨idx, d1, hl, hnd, hlt, ?_⟩
  have hneg : ¬ ((n : Int) < 0) := by omega
  simp only [resetDynamicObstacles, hroom, hneg, if_false, Int.toNat_natCast, ← vacant.eq_1, hc, obstacleState]
  cases drawAll (room sh).grid (idx.map fun i => (vacant (room sh)).getD i ⟨0, 0⟩) Obj.obstacle <;> rfl

/-- **C14 (`dynamic_obstacles`, by certificates).**  For a valid shape and `n` obstacles, a table that
holds, for every vector of `n` distinct indices of vacant cells, a certificate the sparse room accepts:
for every stream of draws the reset succeeds and the exit can be reached without an earlier terminating
step (bumping into an obstacle or a wall included), for some resolution of the obstacles' moves. -/
theorem C14_dynamic_obstacles_certified (sh : Shape) (n : Nat) (table : List Cert.Row)
    (hv : 4 ≤ sh.h ∧ 4 ≤ sh.w)
    (hn : n ≤ (roomVacant sh.h.toNat sh.w.toNat).length)
    (hok : table.all (roomCertOK sh.h.toNat sh.w.toNat) = true)
    (hcover : ∀ idx : List Nat, idx.length = n → idx.Nodup →
      (∀ i ∈ idx, i < (roomVacant sh.h.toNat sh.w.toNat).length) → ∃ row ∈ table, row.1 = idx)
    (d : DrawSt) :
    ∃ s d', resetDynamicObstacles sh n false d = .ok (s, d') ∧ Reaches obsChain obsStop goalExit s := by
  have hlen : (vacant (room sh)).length = (roomVacant sh.h.toNat sh.w.toNat).length := by
    rw [(room_state sh hv).1.vacant_eq, List.length_map]
  obtain ⟨idx, d', hl, hnd, hlt, he⟩ :=
    reset_is_obstacleState sh n d ((room_state sh hv).2 d) (by rw [hlen]; exact hn)
  obtain ⟨row, hrow, hr1⟩ := hcover idx hl hnd (by rw [← hlen]; exact hlt)
  obtain ⟨s, hs, hreach⟩ :=
    certOK_reaches _ row (roomCert_sound sh hv row (List.all_eq_true.mp hok row hrow))
  rw [hr1] at hs
  rw [hs] at he
  exact ⟨s, d', he, hreach⟩

theorem cover_of_keys {table : List Cert.Row} {keys : List (List Nat)} (h : table.map (·.1) = keys)
    {idx : List Nat} (hm : idx ∈ keys) : ∃ row ∈ table, row.1 = idx := by
  rw [← h] at hm
  obtain ⟨row, hr, he⟩ := List.mem_map.mp hm
  exact ⟨row, hr, he⟩

/-- **C14 (`dynamic_obstacles`, shipped 5×5 with one obstacle).**  For every stream of draws the
reset succeeds and the exit can be reached without an earlier terminating step (bumping into the
obstacle or a wall included), for some resolution of the obstacle's moves. -/
theorem C14_dynamic_obstacles_5x5 (d : DrawSt) :
    ∃ s d', resetDynamicObstacles ⟨5, 5⟩ 1 false d = .ok (s, d') ∧ Reaches obsChain obsStop goalExit s := by
  refine C14_dynamic_obstacles_certified ⟨5, 5⟩ 1 Cert.obstacles5x5 (by decide) (by decide +kernel)
    certs5_ok ?_ d
  intro idx hl _ hlt
  match idx, hl, hlt with
  | [i], _, hlt =>
    have hi : i < 7 := hlt i (List.mem_singleton.mpr rfl)
    exact cover_of_keys certs5_keys (List.mem_map.mpr ⟨i, List.mem_range.mpr hi, rfl⟩)

/-- **C14 (`dynamic_obstacles`, shipped 7×7 with two obstacles).** -/
theorem C14_dynamic_obstacles_7x7 (d : DrawSt) :
    ∃ s d', resetDynamicObstacles ⟨7, 7⟩ 2 false d = .ok (s, d') ∧ Reaches obsChain obsStop goalExit s := by
  refine C14_dynamic_obstacles_certified ⟨7, 7⟩ 2 Cert.obstacles7x7 (by decide) (by decide +kernel)
    certs7_ok ?_ d
  intro idx hl hnd hlt
  match idx, hl, hnd, hlt with
  | [i, j], _, hnd, hlt =>
    have hi : i < 23 := hlt i (by simp)
    have hj : j < 23 := hlt j (by simp)
    have hij : j ≠ i := by intro h; subst h; simp at hnd
    exact cover_of_keys certs7_keys (List.mem_flatMap.mpr ⟨i, List.mem_range.mpr hi,
      List.mem_map.mpr ⟨j, List.mem_filter.mpr ⟨List.mem_range.mpr hj, by simpa using hij⟩, rfl⟩⟩)

end GV
