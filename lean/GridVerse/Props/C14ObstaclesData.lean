/- GENERATED ONCE by Tools/GenObstacleCerts.lean (model-side search); static data, re-checked by the kernel in
   Props/C14ObstaclesCk.lean.  The 7×7 table is written in 8 chunks. -/
import GridVerse.Model.Win
namespace GV.Cert

abbrev Row := List Nat × (List Action × List Nat)

def obstacles5x5 : List Row := [
  ([0], ([.moveR, .moveR, .moveF, .moveF], [2, 1, 0, 0])),
  ([1], ([.moveR, .moveR, .moveF, .moveF], [1, 1, 1, 0])),
  ([2], ([.moveR, .moveR, .moveF, .moveF], [2, 1, 1, 0])),
  ([3], ([.moveR, .moveR, .moveF, .moveF], [1, 0, 0, 0])),
  ([4], ([.moveR, .moveR, .moveF, .moveF], [1, 1, 0, 0])),
  ([5], ([.moveR, .moveR, .moveF, .moveF], [1, 0, 1, 0])),
  ([6], ([.moveR, .moveR, .moveF, .moveF], [1, 1, 1, 0]))
]

def obstacles7x7_0 : List Row := [
  ([0, 1], ([.moveR, .moveF, .moveF, .moveR, .moveF, .moveR, .moveF, .moveR], [0, 2, 1, 1, 1, 1, 2, 1, 0, 0, 1, 2, 0, 0, 0, 0])),
  ([0, 2], ([.moveR, .moveR, .moveF, .moveF, .moveR, .moveF, .moveR, .moveF], [2, 2, 1, 2, 0, 0, 1, 2, 0, 0, 1, 2, 0, 0, 0, 0])),
  ([0, 3], ([.moveR, .moveR, .moveF, .moveF, .moveR, .moveF, .moveR, .moveF], [2, 1, 1, 2, 1, 0, 0, 3, 1, 2, 1, 3, 0, 2, 0, 0])),
  ([0, 4], ([.moveR, .moveR, .moveF, .moveF, .moveR, .moveF, .moveR, .moveF], [0, 2, 0, 2, 0, 2, 1, 1, 0, 2, 1, 1, 0, 2, 0, 0])),
  ([0, 5], ([.moveR, .moveR, .moveF, .moveF, .moveR, .moveF, .moveR, .moveF], [1, 2, 1, 2, 0, 3, 0, 2, 2, 0, 1, 2, 0, 0, 0, 0])),
  ([0, 6], ([.moveR, .moveR, .moveF, .moveF, .moveR, .moveF, .moveR, .moveF], [2, 3, 1, 2, 0, 3, 0, 2, 2, 0, 0, 2, 2, 0, 0, 0])),
  ([0, 7], ([.moveR, .moveR, .moveF, .moveF, .moveR, .moveF, .moveR, .moveF], [2, 3, 1, 3, 0, 1, 1, 3, 0, 1, 1, 3, 0, 1, 0, 0])),
  ([0, 8], ([.moveR, .moveR, .moveF, .moveF, .moveR, .moveF, .moveR, .moveF], [2, 2, 1, 1, 0, 0, 1, 1, 0, 0, 1, 1, 0, 0, 0, 0])),
  ([0, 9], ([.moveR, .moveR, .moveF, .moveF, .moveR, .moveR, .moveF, .moveF], [2, 2, 1, 2, 0, 1, 1, 2, 0, 1, 1, 2, 0, 1, 0, 0])),
  ([0, 10], ([.moveR, .moveR, .moveF, .moveF, .moveR, .moveF, .moveR, .moveF], [2, 3, 0, 2, 2, 0, 0, 2, 2, 0, 0, 2, 2, 0, 0, 0])),
  ([0, 11], ([.moveR, .moveR, .moveF, .moveR, .moveF, .moveF, .moveR, .moveF], [2, 3, 1, 2, 0, 3, 1, 2, 0, 0, 1, 2, 0, 0, 0, 0])),
  ([0, 12], ([.moveR, .moveR, .moveF, .moveF, .moveR, .moveF, .moveR, .moveF], [2, 3, 1, 3, 0, 3, 0, 2, 2, 0, 0, 2, 2, 0, 0, 0])),
  ([0, 13], ([.moveR, .moveR, .moveF, .moveF, .moveR, .moveF, .moveR, .moveF], [2, 2, 1, 2, 0, 1, 1, 0, 0, 1, 1, 0, 0, 1, 0, 0])),
  ([0, 14], ([.moveR, .moveR, .moveF, .moveF, .moveR, .moveF, .moveR, .moveF], [2, 2, 1, 1, 0, 2, 1, 1, 0, 2, 1, 1, 0, 2, 0, 0])),
  ([0, 15], ([.moveR, .moveR, .moveF, .moveR, .moveF, .moveR, .moveF, .moveF], [2, 3, 1, 2, 0, 0, 1, 2, 0, 0, 1, 2, 0, 0, 0, 0])),
  ([0, 16], ([.moveR, .moveR, .moveF, .moveF, .moveR, .moveF, .moveR, .moveF], [2, 3, 1, 3, 0, 2, 1, 1, 0, 2, 1, 1, 0, 2, 0, 0])),
  ([0, 17], ([.moveR, .moveR, .moveF, .moveF, .moveR, .moveF, .moveR, .moveF], [2, 3, 1, 3, 0, 3, 1, 2, 0, 1, 1, 2, 0, 1, 0, 0])),
  ([0, 18], ([.moveR, .moveR, .moveF, .moveF, .moveR, .moveF, .moveR, .moveF], [2, 1, 1, 3, 0, 3, 1, 3, 0, 2, 1, 1, 0, 2, 0, 0])),
  ([0, 19], ([.moveR, .moveR, .moveF, .moveF, .moveR, .moveF, .moveR, .moveF], [2, 1, 1, 1, 0, 1, 1, 0, 0, 1, 1, 0, 0, 1, 0, 0])),
  ([0, 20], ([.moveR, .moveR, .moveF, .moveF, .moveR, .moveF, .moveR, .moveF], [2, 2, 1, 1, 0, 2, 1, 1, 0, 2, 1, 1, 0, 2, 0, 0])),
  ([0, 21], ([.moveR, .moveR, .moveF, .moveF, .moveR, .moveR, .moveF, .moveF], [2, 2, 1, 2, 0, 1, 1, 2, 0, 1, 1, 2, 0, 1, 0, 0])),
  ([0, 22], ([.moveR, .moveR, .moveF, .moveF, .moveR, .moveF, .moveR, .moveF], [2, 1, 1, 2, 0, 2, 1, 1, 0, 2, 1, 1, 0, 2, 0, 0])),
  ([1, 0], ([.moveR, .moveF, .moveF, .moveR, .moveF, .moveR, .moveF, .moveR], [0, 2, 1, 1, 1, 1, 2, 1, 0, 0, 1, 2, 0, 0, 0, 0])),
  ([1, 2], ([.moveR, .moveR, .moveF, .moveF, .moveR, .moveF, .moveR, .moveF], [1, 2, 1, 2, 0, 0, 0, 2, 2, 0, 2, 2, 0, 0, 0, 0])),
  ([1, 3], ([.moveR, .moveF, .moveF, .moveR, .moveF, .moveR, .moveF, .moveR], [2, 1, 2, 2, 1, 2, 0, 2, 2, 0, 0, 2, 2, 0, 0, 0])),
  ([1, 4], ([.moveR, .moveR, .moveF, .moveF, .moveR, .moveF, .moveR, .moveF], [2, 2, 2, 2, 1, 2, 2, 1, 0, 2, 2, 1, 0, 2, 0, 0])),
  ([1, 5], ([.moveR, .moveR, .moveF, .moveF, .moveR, .moveF, .moveR, .moveF], [0, 2, 1, 2, 1, 3, 2, 2, 1, 0, 2, 2, 1, 0, 0, 0])),
  ([1, 6], ([.moveR, .moveF, .moveF, .moveR, .moveF, .moveR, .moveF, .moveR], [1, 3, 1, 2, 1, 0, 1, 3, 1, 2, 0, 2, 2, 0, 0, 0])),
  ([1, 7], ([.moveR, .moveF, .moveF, .moveR, .moveF, .moveR, .moveF, .moveR], [2, 3, 2, 0, 1, 2, 0, 2, 2, 0, 0, 2, 2, 0, 0, 0])),
  ([1, 8], ([.moveR, .moveR, .moveF, .moveF, .moveR, .moveF, .moveR, .moveF], [2, 2, 2, 1, 1, 0, 1, 2, 0, 0, 1, 2, 0, 0, 0, 0])),
  ([1, 9], ([.moveR, .moveR, .moveF, .moveF, .moveR, .moveR, .moveF, .moveF], [2, 2, 2, 2, 1, 1, 2, 2, 0, 1, 2, 2, 0, 1, 0, 0])),
  ([1, 10], ([.moveR, .moveR, .moveF, .moveF, .moveR, .moveF, .moveR, .moveF], [2, 3, 2, 2, 0, 0, 0, 2, 2, 0, 2, 2, 0, 0, 0, 0])),
  ([1, 11], ([.moveR, .moveR, .moveF, .moveR, .moveF, .moveF, .moveR, .moveF], [2, 3, 2, 2, 1, 3, 1, 2, 3, 0, 1, 2, 3, 0, 0, 0])),
  ([1, 12], ([.moveR, .moveR, .moveF, .moveF, .moveR, .moveF, .moveR, .moveF], [2, 3, 2, 3, 0, 3, 0, 2, 2, 0, 2, 2, 0, 0, 0, 0])),
  ([1, 13], ([.moveR, .moveR, .moveF, .moveF, .moveR, .moveF, .moveR, .moveF], [2, 2, 2, 2, 1, 1, 2, 0, 0, 1, 2, 0, 0, 1, 0, 0])),
  ([1, 14], ([.moveR, .moveR, .moveF, .moveF, .moveR, .moveF, .moveR, .moveF], [2, 2, 2, 1, 1, 2, 2, 1, 0, 2, 2, 1, 0, 2, 0, 0])),
  ([1, 15], ([.moveR, .moveR, .moveF, .moveR, .moveF, .moveR, .moveF, .moveF], [2, 3, 2, 2, 1, 0, 1, 2, 3, 0, 1, 2, 3, 0, 0, 0])),
  ([1, 16], ([.moveR, .moveR, .moveF, .moveF, .moveR, .moveF, .moveR, .moveF], [2, 3, 2, 3, 1, 2, 2, 1, 0, 2, 2, 1, 0, 2, 0, 0])),
  ([1, 17], ([.moveR, .moveR, .moveF, .moveF, .moveR, .moveF, .moveR, .moveF], [2, 3, 2, 3, 1, 3, 1, 2, 3, 1, 2, 2, 0, 1, 0, 0])),
  ([1, 18], ([.moveR, .moveR, .moveF, .moveF, .moveR, .moveF, .moveR, .moveF], [2, 1, 2, 3, 1, 3, 2, 3, 0, 2, 2, 1, 0, 2, 0, 0])),
  ([1, 19], ([.moveR, .moveR, .moveF, .moveF, .moveR, .moveF, .moveR, .moveF], [2, 1, 2, 2, 1, 1, 2, 2, 0, 1, 2, 2, 0, 1, 0, 0])),
  ([1, 20], ([.moveR, .moveR, .moveF, .moveF, .moveR, .moveF, .moveR, .moveF], [2, 2, 2, 1, 1, 2, 2, 1, 0, 2, 2, 1, 0, 2, 0, 0])),
  ([1, 21], ([.moveR, .moveR, .moveF, .moveF, .moveR, .moveR, .moveF, .moveF], [2, 2, 2, 2, 1, 1, 2, 2, 0, 1, 2, 2, 0, 1, 0, 0])),
  ([1, 22], ([.moveR, .moveR, .moveF, .moveF, .moveR, .moveF, .moveR, .moveF], [2, 1, 2, 2, 1, 2, 2, 1, 0, 2, 2, 1, 0, 2, 0, 0])),
  ([2, 0], ([.moveR, .moveR, .moveF, .moveF, .moveR, .moveF, .moveR, .moveF], [2, 2, 1, 2, 0, 0, 1, 2, 0, 0, 1, 2, 0, 0, 0, 0])),
  ([2, 1], ([.moveR, .moveR, .moveF, .moveF, .moveR, .moveF, .moveR, .moveF], [1, 2, 1, 2, 0, 0, 0, 2, 2, 0, 2, 2, 0, 0, 0, 0])),
  ([2, 3], ([.moveR, .moveR, .moveF, .moveF, .moveR, .moveF, .moveR, .moveF], [1, 1, 1, 2, 1, 1, 0, 3, 1, 3, 0, 2, 2, 0, 0, 0])),
  ([2, 4], ([.moveR, .moveR, .moveF, .moveF, .moveR, .moveF, .moveR, .moveF], [2, 2, 2, 2, 2, 2, 1, 1, 0, 2, 1, 1, 0, 2, 0, 0])),
  ([2, 5], ([.moveR, .moveR, .moveF, .moveF, .moveR, .moveF, .moveR, .moveF], [2, 2, 2, 2, 2, 3, 1, 2, 0, 0, 1, 2, 0, 0, 0, 0])),
  ([2, 6], ([.moveR, .moveR, .moveF, .moveF, .moveR, .moveF, .moveR, .moveF], [0, 3, 1, 3, 0, 2, 1, 2, 0, 0, 1, 2, 0, 0, 0, 0])),
  ([2, 7], ([.moveR, .moveR, .moveF, .moveF, .moveR, .moveF, .moveR, .moveF], [1, 3, 1, 3, 0, 3, 1, 2, 0, 0, 2, 2, 0, 0, 0, 0])),
  ([2, 8], ([.moveR, .moveR, .moveF, .moveF, .moveR, .moveF, .moveR, .moveF], [2, 2, 2, 1, 2, 0, 1, 1, 0, 0, 1, 1, 0, 0, 0, 0])),
  ([2, 9], ([.moveR, .moveR, .moveF, .moveF, .moveR, .moveR, .moveF, .moveF], [2, 2, 2, 2, 2, 1, 1, 2, 0, 1, 1, 2, 0, 1, 0, 0])),
  ([2, 10], ([.moveR, .moveR, .moveF, .moveF, .moveR, .moveF, .moveR, .moveF], [2, 3, 2, 2, 2, 0, 0, 2, 2, 0, 0, 2, 2, 0, 0, 0])),
  ([2, 11], ([.moveR, .moveR, .moveF, .moveF, .moveR, .moveF, .moveR, .moveF], [2, 3, 2, 0, 0, 3, 0, 2, 2, 0, 2, 2, 0, 0, 0, 0])),
  ([2, 12], ([.moveR, .moveR, .moveF, .moveF, .moveR, .moveF, .moveR, .moveF], [2, 3, 2, 3, 2, 3, 0, 2, 2, 0, 0, 2, 2, 0, 0, 0])),
  ([2, 13], ([.moveR, .moveR, .moveF, .moveF, .moveR, .moveF, .moveR, .moveF], [2, 2, 2, 2, 2, 1, 1, 0, 0, 1, 1, 0, 0, 1, 0, 0])),
  ([2, 14], ([.moveR, .moveR, .moveF, .moveF, .moveR, .moveF, .moveR, .moveF], [2, 2, 2, 1, 2, 2, 1, 1, 0, 2, 1, 1, 0, 2, 0, 0])),
  ([2, 15], ([.moveR, .moveR, .moveF, .moveR, .moveF, .moveR, .moveF, .moveF], [2, 3, 2, 2, 2, 0, 1, 2, 0, 0, 1, 2, 0, 0, 0, 0])),
  ([2, 16], ([.moveR, .moveR, .moveF, .moveF, .moveR, .moveF, .moveR, .moveF], [2, 3, 2, 3, 2, 2, 1, 1, 0, 2, 1, 1, 0, 2, 0, 0])),
  ([2, 17], ([.moveR, .moveR, .moveF, .moveF, .moveR, .moveF, .moveR, .moveF], [2, 3, 2, 3, 2, 3, 1, 2, 0, 1, 1, 2, 0, 1, 0, 0])),
  ([2, 18], ([.moveR, .moveR, .moveF, .moveF, .moveR, .moveF, .moveR, .moveF], [2, 1, 2, 3, 2, 3, 1, 3, 0, 2, 1, 1, 0, 2, 0, 0])),
  ([2, 19], ([.moveR, .moveR, .moveF, .moveF, .moveR, .moveF, .moveR, .moveF], [2, 1, 2, 1, 2, 1, 1, 0, 0, 1, 1, 0, 0, 1, 0, 0])),
  ([2, 20], ([.moveR, .moveR, .moveF, .moveF, .moveR, .moveF, .moveR, .moveF], [2, 2, 2, 1, 2, 2, 1, 1, 0, 2, 1, 1, 0, 2, 0, 0]))
]

def obstacles7x7_1 : List Row := [
  ([2, 21], ([.moveR, .moveR, .moveF, .moveF, .moveR, .moveR, .moveF, .moveF], [2, 2, 2, 2, 2, 1, 1, 2, 0, 1, 1, 2, 0, 1, 0, 0])),
  ([2, 22], ([.moveR, .moveR, .moveF, .moveF, .moveR, .moveF, .moveR, .moveF], [2, 1, 2, 2, 2, 2, 1, 1, 0, 2, 1, 1, 0, 2, 0, 0])),
  ([3, 0], ([.moveR, .moveR, .moveF, .moveF, .moveR, .moveF, .moveR, .moveF], [2, 1, 1, 2, 1, 0, 0, 3, 1, 2, 1, 3, 0, 2, 0, 0])),
  ([3, 1], ([.moveR, .moveF, .moveF, .moveR, .moveF, .moveR, .moveF, .moveR], [2, 1, 2, 2, 1, 2, 0, 2, 2, 0, 0, 2, 2, 0, 0, 0])),
  ([3, 2], ([.moveR, .moveR, .moveF, .moveF, .moveR, .moveF, .moveR, .moveF], [1, 1, 1, 2, 1, 1, 0, 3, 1, 3, 0, 2, 2, 0, 0, 0])),
  ([3, 4], ([.moveR, .moveF, .moveF, .moveR, .moveF, .moveR, .moveF, .moveR], [1, 2, 2, 2, 2, 2, 2, 1, 1, 2, 2, 1, 0, 2, 0, 0])),
  ([3, 5], ([.moveR, .moveF, .moveF, .moveR, .moveF, .moveR, .moveF, .moveR], [1, 2, 2, 2, 2, 2, 2, 2, 1, 1, 2, 2, 0, 1, 0, 0])),
  ([3, 6], ([.moveR, .moveF, .moveF, .moveR, .moveF, .moveR, .moveF, .moveR], [1, 3, 2, 3, 2, 2, 2, 2, 0, 0, 0, 2, 2, 0, 0, 0])),
  ([3, 7], ([.moveR, .moveF, .moveF, .moveR, .moveF, .moveR, .moveF, .moveR], [1, 2, 2, 1, 2, 3, 2, 3, 0, 2, 2, 2, 0, 0, 0, 0])),
  ([3, 8], ([.moveR, .moveF, .moveF, .moveR, .moveF, .moveR, .moveF, .moveR], [0, 2, 1, 1, 2, 0, 2, 1, 1, 0, 1, 2, 0, 0, 0, 0])),
  ([3, 9], ([.moveR, .moveF, .moveF, .moveR, .moveF, .moveR, .moveF, .moveR], [1, 2, 2, 2, 2, 1, 2, 2, 1, 1, 2, 2, 0, 1, 0, 0])),
  ([3, 10], ([.moveR, .moveF, .moveF, .moveR, .moveF, .moveR, .moveF, .moveR], [1, 3, 2, 2, 2, 0, 2, 2, 0, 0, 0, 2, 2, 0, 0, 0])),
  ([3, 11], ([.moveR, .moveF, .moveF, .moveR, .moveF, .moveR, .moveF, .moveR], [1, 3, 2, 3, 2, 2, 2, 2, 1, 0, 1, 2, 3, 0, 0, 0])),
  ([3, 12], ([.moveR, .moveF, .moveF, .moveR, .moveF, .moveR, .moveF, .moveR], [1, 3, 2, 3, 2, 3, 2, 2, 0, 0, 0, 2, 2, 0, 0, 0])),
  ([3, 13], ([.moveR, .moveF, .moveF, .moveR, .moveF, .moveR, .moveF, .moveR], [1, 2, 2, 2, 2, 2, 2, 1, 0, 1, 2, 1, 0, 1, 0, 0])),
  ([3, 14], ([.moveR, .moveF, .moveF, .moveR, .moveF, .moveR, .moveF, .moveR], [1, 2, 2, 1, 2, 2, 2, 1, 1, 2, 2, 1, 0, 2, 0, 0])),
  ([3, 15], ([.moveR, .moveF, .moveF, .moveR, .moveF, .moveR, .moveF, .moveR], [1, 3, 2, 0, 2, 0, 0, 2, 2, 0, 0, 2, 2, 0, 0, 0])),
  ([3, 16], ([.moveR, .moveF, .moveF, .moveR, .moveF, .moveR, .moveF, .moveR], [1, 3, 2, 3, 2, 2, 2, 1, 1, 2, 2, 1, 0, 2, 0, 0])),
  ([3, 17], ([.moveR, .moveF, .moveF, .moveR, .moveF, .moveR, .moveF, .moveR], [1, 3, 2, 2, 2, 1, 2, 1, 0, 1, 2, 1, 0, 1, 0, 0])),
  ([3, 18], ([.moveR, .moveF, .moveF, .moveR, .moveF, .moveR, .moveF, .moveR], [1, 1, 2, 3, 2, 3, 2, 3, 1, 2, 2, 1, 0, 2, 0, 0])),
  ([3, 19], ([.moveR, .moveF, .moveF, .moveR, .moveF, .moveR, .moveF, .moveR], [1, 1, 2, 1, 2, 1, 2, 1, 0, 1, 2, 1, 0, 1, 0, 0])),
  ([3, 20], ([.moveR, .moveF, .moveF, .moveR, .moveF, .moveR, .moveF, .moveR], [1, 2, 2, 1, 2, 2, 2, 1, 1, 2, 2, 1, 0, 2, 0, 0])),
  ([3, 21], ([.moveR, .moveF, .moveF, .moveR, .moveF, .moveR, .moveF, .moveR], [1, 2, 2, 2, 2, 1, 2, 2, 1, 1, 2, 2, 0, 1, 0, 0])),
  ([3, 22], ([.moveR, .moveF, .moveF, .moveR, .moveF, .moveR, .moveF, .moveR], [1, 1, 2, 2, 2, 2, 2, 1, 1, 2, 2, 1, 0, 2, 0, 0])),
  ([4, 0], ([.moveR, .moveR, .moveF, .moveF, .moveR, .moveF, .moveR, .moveF], [0, 2, 0, 2, 0, 2, 1, 1, 0, 2, 1, 1, 0, 2, 0, 0])),
  ([4, 1], ([.moveR, .moveR, .moveF, .moveF, .moveR, .moveF, .moveR, .moveF], [2, 2, 2, 2, 1, 2, 2, 1, 0, 2, 2, 1, 0, 2, 0, 0])),
  ([4, 2], ([.moveR, .moveR, .moveF, .moveF, .moveR, .moveF, .moveR, .moveF], [2, 2, 2, 2, 2, 2, 1, 1, 0, 2, 1, 1, 0, 2, 0, 0])),
  ([4, 3], ([.moveR, .moveF, .moveF, .moveR, .moveF, .moveR, .moveF, .moveR], [1, 2, 2, 2, 2, 2, 2, 1, 1, 2, 2, 1, 0, 2, 0, 0])),
  ([4, 5], ([.moveR, .moveR, .moveF, .moveF, .moveR, .moveR, .moveF, .moveF], [1, 2, 1, 2, 0, 2, 1, 1, 3, 2, 2, 2, 0, 1, 0, 0])),
  ([4, 6], ([.moveR, .moveR, .moveF, .moveF, .moveR, .moveF, .moveR, .moveF], [2, 3, 3, 1, 2, 1, 1, 1, 3, 2, 1, 1, 3, 2, 0, 0])),
  ([4, 7], ([.moveR, .moveR, .moveF, .moveF, .moveR, .moveF, .moveR, .moveF], [2, 3, 3, 1, 2, 1, 2, 2, 0, 1, 2, 3, 0, 1, 0, 0])),
  ([4, 8], ([.moveR, .moveR, .moveF, .moveF, .moveR, .moveF, .moveR, .moveF], [2, 2, 1, 2, 0, 2, 1, 1, 0, 2, 1, 1, 0, 2, 0, 0])),
  ([4, 9], ([.moveR, .moveR, .moveF, .moveF, .moveR, .moveR, .moveF, .moveF], [1, 2, 1, 2, 1, 1, 1, 2, 0, 1, 1, 2, 0, 1, 0, 0])),
  ([4, 10], ([.moveR, .moveR, .moveF, .moveF, .moveR, .moveF, .moveR, .moveF], [0, 3, 0, 2, 2, 0, 0, 2, 2, 0, 0, 2, 2, 0, 0, 0])),
  ([4, 11], ([.moveR, .moveR, .moveF, .moveF, .moveR, .moveF, .moveR, .moveF], [2, 3, 1, 0, 3, 2, 2, 1, 0, 2, 2, 1, 0, 2, 0, 0])),
  ([4, 12], ([.moveR, .moveR, .moveF, .moveF, .moveR, .moveF, .moveR, .moveF], [2, 3, 2, 3, 1, 2, 3, 1, 1, 2, 3, 1, 1, 2, 0, 0])),
  ([4, 13], ([.moveR, .moveR, .moveF, .moveF, .moveR, .moveR, .moveF, .moveF], [2, 2, 2, 2, 1, 2, 1, 1, 2, 2, 2, 0, 1, 2, 0, 0])),
  ([4, 14], ([.moveR, .moveR, .moveF, .moveF, .moveR, .moveF, .moveR, .moveF], [1, 2, 1, 1, 1, 2, 1, 1, 0, 2, 1, 1, 0, 2, 0, 0])),
  ([4, 15], ([.moveR, .moveR, .moveF, .moveR, .moveF, .moveR, .moveF, .moveF], [1, 3, 0, 2, 2, 0, 1, 2, 0, 0, 1, 2, 0, 0, 0, 0])),
  ([4, 16], ([.moveR, .moveR, .moveF, .moveF, .moveR, .moveF, .moveR, .moveF], [2, 3, 2, 2, 2, 0, 1, 1, 3, 1, 1, 1, 3, 1, 0, 0])),
  ([4, 17], ([.moveR, .moveR, .moveF, .moveF, .moveR, .moveF, .moveR, .moveF], [2, 3, 2, 2, 2, 1, 1, 1, 1, 1, 1, 1, 1, 2, 0, 0])),
  ([4, 18], ([.moveR, .moveR, .moveF, .moveF, .moveR, .moveF, .moveR, .moveF], [2, 1, 2, 3, 2, 3, 1, 1, 3, 1, 1, 1, 3, 1, 0, 0])),
  ([4, 19], ([.moveR, .moveR, .moveF, .moveF, .moveR, .moveF, .moveR, .moveF], [2, 1, 2, 1, 2, 1, 1, 0, 1, 2, 0, 1, 1, 2, 0, 0])),
  ([4, 20], ([.moveR, .moveR, .moveF, .moveF, .moveR, .moveF, .moveR, .moveF], [2, 2, 1, 1, 3, 2, 1, 1, 3, 2, 1, 1, 3, 2, 0, 0])),
  ([4, 21], ([.moveR, .moveR, .moveF, .moveF, .moveR, .moveR, .moveF, .moveF], [2, 2, 2, 2, 0, 1, 0, 2, 2, 1, 2, 2, 0, 1, 0, 0])),
  ([4, 22], ([.moveR, .moveR, .moveF, .moveF, .moveR, .moveF, .moveR, .moveF], [2, 1, 2, 2, 0, 2, 1, 1, 3, 2, 1, 1, 3, 2, 0, 0])),
  ([5, 0], ([.moveR, .moveR, .moveF, .moveF, .moveR, .moveF, .moveR, .moveF], [1, 2, 1, 2, 0, 3, 0, 2, 2, 0, 1, 2, 0, 0, 0, 0])),
  ([5, 1], ([.moveR, .moveR, .moveF, .moveF, .moveR, .moveF, .moveR, .moveF], [0, 2, 1, 2, 1, 3, 2, 2, 1, 0, 2, 2, 1, 0, 0, 0])),
  ([5, 2], ([.moveR, .moveR, .moveF, .moveF, .moveR, .moveF, .moveR, .moveF], [2, 2, 2, 2, 2, 3, 1, 2, 0, 0, 1, 2, 0, 0, 0, 0])),
  ([5, 3], ([.moveR, .moveF, .moveF, .moveR, .moveF, .moveR, .moveF, .moveR], [1, 2, 2, 2, 2, 2, 2, 2, 1, 1, 2, 2, 0, 1, 0, 0])),
  ([5, 4], ([.moveR, .moveR, .moveF, .moveF, .moveR, .moveR, .moveF, .moveF], [1, 2, 1, 2, 0, 2, 1, 1, 3, 2, 2, 2, 0, 1, 0, 0])),
  ([5, 6], ([.moveR, .moveR, .moveF, .moveF, .moveR, .moveF, .moveR, .moveF], [1, 3, 2, 1, 2, 1, 2, 2, 2, 1, 0, 1, 1, 2, 0, 0])),
  ([5, 7], ([.moveR, .moveR, .moveF, .moveR, .moveF, .moveR, .moveF, .moveF], [2, 3, 3, 1, 3, 3, 1, 0, 3, 1, 1, 2, 3, 0, 0, 0])),
  ([5, 8], ([.moveR, .moveR, .moveF, .moveF, .moveR, .moveF, .moveR, .moveF], [2, 2, 3, 1, 2, 1, 3, 2, 2, 1, 2, 0, 1, 0, 0, 0])),
  ([5, 9], ([.moveR, .moveR, .moveF, .moveF, .moveR, .moveR, .moveF, .moveF], [1, 2, 1, 2, 1, 1, 2, 2, 1, 1, 2, 2, 1, 1, 0, 0])),
  ([5, 10], ([.moveR, .moveR, .moveF, .moveF, .moveR, .moveF, .moveR, .moveF], [1, 3, 1, 2, 1, 0, 2, 2, 1, 0, 2, 2, 1, 0, 0, 0])),
  ([5, 11], ([.moveR, .moveR, .moveF, .moveR, .moveF, .moveF, .moveR, .moveF], [0, 3, 2, 2, 0, 3, 2, 2, 0, 0, 2, 2, 0, 0, 0, 0])),
  ([5, 12], ([.moveR, .moveR, .moveF, .moveF, .moveR, .moveR, .moveF, .moveF], [2, 3, 1, 3, 2, 3, 0, 2, 2, 0, 0, 2, 2, 0, 0, 0])),
  ([5, 13], ([.moveR, .moveR, .moveF, .moveF, .moveR, .moveF, .moveR, .moveF], [2, 2, 2, 2, 3, 1, 2, 0, 1, 0, 2, 0, 1, 0, 0, 0])),
  ([5, 14], ([.moveR, .moveR, .moveF, .moveF, .moveR, .moveF, .moveR, .moveF], [2, 2, 2, 1, 1, 2, 2, 1, 1, 1, 1, 1, 1, 2, 0, 0])),
  ([5, 15], ([.moveR, .moveR, .moveF, .moveR, .moveF, .moveR, .moveF, .moveF], [1, 3, 1, 2, 1, 0, 2, 2, 1, 0, 2, 2, 1, 0, 0, 0])),
  ([5, 16], ([.moveR, .moveR, .moveF, .moveF, .moveR, .moveF, .moveR, .moveF], [1, 3, 1, 3, 3, 2, 3, 1, 1, 2, 3, 1, 1, 2, 0, 0])),
  ([5, 17], ([.moveR, .moveR, .moveF, .moveR, .moveF, .moveR, .moveF, .moveF], [2, 3, 2, 2, 3, 2, 0, 2, 2, 0, 0, 2, 2, 0, 0, 0])),
  ([5, 18], ([.moveR, .moveR, .moveF, .moveF, .moveR, .moveF, .moveR, .moveF], [2, 1, 2, 3, 1, 3, 2, 0, 1, 3, 1, 1, 2, 2, 0, 0]))
]

def obstacles7x7_2 : List Row := [
  ([5, 19], ([.moveR, .moveR, .moveF, .moveR, .moveF, .moveR, .moveF, .moveF], [2, 1, 2, 1, 2, 0, 0, 2, 2, 0, 0, 2, 2, 0, 0, 0])),
  ([5, 20], ([.moveR, .moveR, .moveF, .moveF, .moveR, .moveR, .moveF, .moveF], [2, 2, 2, 0, 0, 2, 1, 2, 3, 1, 2, 2, 0, 1, 0, 0])),
  ([5, 21], ([.moveR, .moveR, .moveF, .moveR, .moveF, .moveR, .moveF, .moveF], [2, 2, 2, 1, 2, 0, 0, 2, 2, 0, 0, 2, 2, 0, 0, 0])),
  ([5, 22], ([.moveR, .moveR, .moveF, .moveF, .moveR, .moveR, .moveF, .moveF], [2, 1, 2, 0, 1, 3, 2, 2, 0, 1, 2, 2, 0, 1, 0, 0])),
  ([6, 0], ([.moveR, .moveR, .moveF, .moveF, .moveR, .moveF, .moveR, .moveF], [2, 3, 1, 2, 0, 3, 0, 2, 2, 0, 0, 2, 2, 0, 0, 0])),
  ([6, 1], ([.moveR, .moveF, .moveF, .moveR, .moveF, .moveR, .moveF, .moveR], [1, 3, 1, 2, 1, 0, 1, 3, 1, 2, 0, 2, 2, 0, 0, 0])),
  ([6, 2], ([.moveR, .moveR, .moveF, .moveF, .moveR, .moveF, .moveR, .moveF], [0, 3, 1, 3, 0, 2, 1, 2, 0, 0, 1, 2, 0, 0, 0, 0])),
  ([6, 3], ([.moveR, .moveF, .moveF, .moveR, .moveF, .moveR, .moveF, .moveR], [1, 3, 2, 3, 2, 2, 2, 2, 0, 0, 0, 2, 2, 0, 0, 0])),
  ([6, 4], ([.moveR, .moveR, .moveF, .moveF, .moveR, .moveF, .moveR, .moveF], [2, 3, 3, 1, 2, 1, 1, 1, 3, 2, 1, 1, 3, 2, 0, 0])),
  ([6, 5], ([.moveR, .moveR, .moveF, .moveF, .moveR, .moveF, .moveR, .moveF], [1, 3, 2, 1, 2, 1, 2, 2, 2, 1, 0, 1, 1, 2, 0, 0])),
  ([6, 7], ([.moveR, .moveR, .moveF, .moveF, .moveR, .moveF, .moveR, .moveF], [2, 3, 2, 3, 1, 1, 0, 2, 2, 0, 2, 2, 0, 0, 0, 0])),
  ([6, 8], ([.moveR, .moveR, .moveF, .moveF, .moveR, .moveF, .moveR, .moveF], [3, 2, 3, 1, 2, 0, 1, 2, 0, 0, 1, 2, 0, 0, 0, 0])),
  ([6, 9], ([.moveR, .moveR, .moveF, .moveF, .moveR, .moveR, .moveF, .moveF], [3, 2, 3, 2, 2, 1, 2, 2, 0, 1, 1, 2, 3, 1, 0, 0])),
  ([6, 10], ([.moveR, .moveR, .moveF, .moveF, .moveR, .moveF, .moveR, .moveF], [1, 3, 1, 2, 0, 0, 1, 2, 0, 0, 1, 2, 0, 0, 0, 0])),
  ([6, 11], ([.moveR, .moveR, .moveF, .moveR, .moveF, .moveF, .moveR, .moveF], [2, 3, 2, 2, 0, 3, 1, 2, 0, 0, 1, 2, 0, 0, 0, 0])),
  ([6, 12], ([.moveR, .moveR, .moveF, .moveF, .moveR, .moveF, .moveR, .moveF], [3, 3, 3, 3, 0, 3, 0, 2, 2, 0, 0, 2, 2, 0, 0, 0])),
  ([6, 13], ([.moveR, .moveR, .moveF, .moveF, .moveR, .moveF, .moveR, .moveF], [3, 2, 3, 2, 2, 1, 2, 0, 1, 0, 2, 0, 1, 0, 0, 0])),
  ([6, 14], ([.moveR, .moveR, .moveF, .moveF, .moveR, .moveF, .moveR, .moveF], [3, 2, 3, 1, 2, 2, 1, 1, 3, 2, 1, 1, 3, 2, 0, 0])),
  ([6, 15], ([.moveR, .moveR, .moveF, .moveR, .moveF, .moveR, .moveF, .moveF], [3, 3, 3, 2, 1, 0, 0, 2, 2, 0, 1, 2, 0, 0, 0, 0])),
  ([6, 16], ([.moveR, .moveR, .moveF, .moveF, .moveR, .moveF, .moveR, .moveF], [3, 3, 3, 3, 1, 2, 3, 1, 1, 2, 3, 1, 1, 2, 0, 0])),
  ([6, 17], ([.moveR, .moveR, .moveF, .moveF, .moveR, .moveF, .moveR, .moveF], [3, 3, 3, 3, 1, 3, 0, 2, 2, 1, 1, 2, 0, 1, 0, 0])),
  ([6, 18], ([.moveR, .moveR, .moveF, .moveF, .moveR, .moveF, .moveR, .moveF], [3, 1, 3, 3, 2, 3, 0, 3, 2, 1, 1, 1, 3, 2, 0, 0])),
  ([6, 19], ([.moveR, .moveR, .moveF, .moveF, .moveR, .moveF, .moveR, .moveF], [3, 1, 3, 1, 2, 1, 2, 0, 0, 1, 2, 0, 1, 0, 0, 0])),
  ([6, 20], ([.moveR, .moveR, .moveF, .moveF, .moveR, .moveF, .moveR, .moveF], [3, 2, 3, 1, 2, 2, 1, 1, 3, 2, 1, 1, 3, 2, 0, 0])),
  ([6, 21], ([.moveR, .moveR, .moveF, .moveF, .moveR, .moveR, .moveF, .moveF], [3, 2, 3, 2, 2, 1, 2, 2, 0, 1, 2, 2, 0, 1, 0, 0])),
  ([6, 22], ([.moveR, .moveR, .moveF, .moveF, .moveR, .moveF, .moveR, .moveF], [3, 1, 3, 2, 2, 2, 1, 1, 3, 2, 1, 1, 3, 2, 0, 0])),
  ([7, 0], ([.moveR, .moveR, .moveF, .moveF, .moveR, .moveF, .moveR, .moveF], [2, 3, 1, 3, 0, 1, 1, 3, 0, 1, 1, 3, 0, 1, 0, 0])),
  ([7, 1], ([.moveR, .moveF, .moveF, .moveR, .moveF, .moveR, .moveF, .moveR], [2, 3, 2, 0, 1, 2, 0, 2, 2, 0, 0, 2, 2, 0, 0, 0])),
  ([7, 2], ([.moveR, .moveR, .moveF, .moveF, .moveR, .moveF, .moveR, .moveF], [1, 3, 1, 3, 0, 3, 1, 2, 0, 0, 2, 2, 0, 0, 0, 0])),
  ([7, 3], ([.moveR, .moveF, .moveF, .moveR, .moveF, .moveR, .moveF, .moveR], [1, 2, 2, 1, 2, 3, 2, 3, 0, 2, 2, 2, 0, 0, 0, 0])),
  ([7, 4], ([.moveR, .moveR, .moveF, .moveF, .moveR, .moveF, .moveR, .moveF], [2, 3, 3, 1, 2, 1, 2, 2, 0, 1, 2, 3, 0, 1, 0, 0])),
  ([7, 5], ([.moveR, .moveR, .moveF, .moveR, .moveF, .moveR, .moveF, .moveF], [2, 3, 3, 1, 3, 3, 1, 0, 3, 1, 1, 2, 3, 0, 0, 0])),
  ([7, 6], ([.moveR, .moveR, .moveF, .moveF, .moveR, .moveF, .moveR, .moveF], [2, 3, 2, 3, 1, 1, 0, 2, 2, 0, 2, 2, 0, 0, 0, 0])),
  ([7, 8], ([.moveR, .moveR, .moveF, .moveF, .moveR, .moveF, .moveR, .moveF], [2, 2, 2, 1, 3, 0, 1, 2, 0, 0, 1, 2, 0, 0, 0, 0])),
  ([7, 9], ([.moveR, .moveR, .moveF, .moveF, .moveR, .moveR, .moveF, .moveF], [3, 2, 3, 2, 3, 1, 2, 2, 0, 1, 2, 2, 0, 1, 0, 0])),
  ([7, 10], ([.moveR, .moveR, .moveF, .moveF, .moveR, .moveF, .moveR, .moveF], [3, 3, 3, 2, 1, 0, 0, 2, 2, 0, 2, 2, 0, 0, 0, 0])),
  ([7, 11], ([.moveR, .moveR, .moveF, .moveF, .moveR, .moveF, .moveR, .moveF], [1, 3, 2, 0, 3, 1, 2, 2, 1, 0, 2, 2, 1, 0, 0, 0])),
  ([7, 12], ([.moveR, .moveR, .moveF, .moveF, .moveR, .moveF, .moveR, .moveF], [2, 3, 2, 3, 1, 3, 0, 2, 2, 0, 2, 2, 0, 0, 0, 0])),
  ([7, 13], ([.moveR, .moveR, .moveF, .moveF, .moveR, .moveF, .moveR, .moveF], [3, 2, 3, 2, 3, 1, 2, 0, 0, 1, 2, 0, 0, 1, 0, 0])),
  ([7, 14], ([.moveR, .moveR, .moveF, .moveF, .moveR, .moveF, .moveR, .moveF], [3, 2, 3, 1, 3, 2, 2, 1, 0, 2, 2, 1, 0, 2, 0, 0])),
  ([7, 15], ([.moveR, .moveR, .moveF, .moveR, .moveF, .moveR, .moveF, .moveF], [3, 3, 3, 2, 3, 0, 1, 2, 3, 0, 1, 2, 3, 0, 0, 0])),
  ([7, 16], ([.moveR, .moveR, .moveF, .moveF, .moveR, .moveF, .moveR, .moveF], [3, 3, 3, 3, 3, 2, 2, 1, 0, 2, 2, 1, 0, 2, 0, 0])),
  ([7, 17], ([.moveR, .moveR, .moveF, .moveF, .moveR, .moveF, .moveR, .moveF], [3, 3, 3, 3, 3, 3, 1, 2, 3, 1, 2, 2, 0, 1, 0, 0])),
  ([7, 18], ([.moveR, .moveR, .moveF, .moveF, .moveR, .moveF, .moveR, .moveF], [3, 1, 3, 3, 3, 3, 2, 2, 2, 0, 1, 2, 0, 2, 0, 0])),
  ([7, 19], ([.moveR, .moveR, .moveF, .moveF, .moveR, .moveF, .moveR, .moveF], [3, 1, 3, 2, 3, 1, 2, 2, 0, 1, 2, 2, 0, 1, 0, 0])),
  ([7, 20], ([.moveR, .moveR, .moveF, .moveF, .moveR, .moveF, .moveR, .moveF], [3, 2, 3, 1, 3, 2, 2, 1, 0, 2, 2, 1, 0, 2, 0, 0])),
  ([7, 21], ([.moveR, .moveR, .moveF, .moveF, .moveR, .moveR, .moveF, .moveF], [3, 2, 3, 2, 3, 1, 2, 2, 0, 1, 2, 2, 0, 1, 0, 0])),
  ([7, 22], ([.moveR, .moveR, .moveF, .moveF, .moveR, .moveF, .moveR, .moveF], [3, 1, 3, 2, 3, 2, 2, 1, 0, 2, 2, 1, 0, 2, 0, 0])),
  ([8, 0], ([.moveR, .moveR, .moveF, .moveF, .moveR, .moveF, .moveR, .moveF], [2, 2, 1, 1, 0, 0, 1, 1, 0, 0, 1, 1, 0, 0, 0, 0])),
  ([8, 1], ([.moveR, .moveR, .moveF, .moveF, .moveR, .moveF, .moveR, .moveF], [2, 2, 2, 1, 1, 0, 1, 2, 0, 0, 1, 2, 0, 0, 0, 0])),
  ([8, 2], ([.moveR, .moveR, .moveF, .moveF, .moveR, .moveF, .moveR, .moveF], [2, 2, 2, 1, 2, 0, 1, 1, 0, 0, 1, 1, 0, 0, 0, 0])),
  ([8, 3], ([.moveR, .moveF, .moveF, .moveR, .moveF, .moveR, .moveF, .moveR], [0, 2, 1, 1, 2, 0, 2, 1, 1, 0, 1, 2, 0, 0, 0, 0])),
  ([8, 4], ([.moveR, .moveR, .moveF, .moveF, .moveR, .moveF, .moveR, .moveF], [2, 2, 1, 2, 0, 2, 1, 1, 0, 2, 1, 1, 0, 2, 0, 0])),
  ([8, 5], ([.moveR, .moveR, .moveF, .moveF, .moveR, .moveF, .moveR, .moveF], [2, 2, 3, 1, 2, 1, 3, 2, 2, 1, 2, 0, 1, 0, 0, 0])),
  ([8, 6], ([.moveR, .moveR, .moveF, .moveF, .moveR, .moveF, .moveR, .moveF], [3, 2, 3, 1, 2, 0, 1, 2, 0, 0, 1, 2, 0, 0, 0, 0])),
  ([8, 7], ([.moveR, .moveR, .moveF, .moveF, .moveR, .moveF, .moveR, .moveF], [2, 2, 2, 1, 3, 0, 1, 2, 0, 0, 1, 2, 0, 0, 0, 0])),
  ([8, 9], ([.moveR, .moveR, .moveF, .moveF, .moveR, .moveR, .moveF, .moveF], [2, 2, 1, 2, 0, 1, 1, 2, 0, 1, 1, 2, 0, 1, 0, 0])),
  ([8, 10], ([.moveR, .moveR, .moveF, .moveF, .moveR, .moveF, .moveR, .moveF], [2, 3, 1, 2, 0, 0, 1, 2, 0, 0, 1, 2, 0, 0, 0, 0])),
  ([8, 11], ([.moveR, .moveR, .moveF, .moveF, .moveR, .moveF, .moveR, .moveF], [2, 3, 1, 0, 3, 0, 1, 2, 0, 0, 1, 2, 0, 0, 0, 0])),
  ([8, 12], ([.moveR, .moveR, .moveF, .moveF, .moveR, .moveF, .moveR, .moveF], [0, 3, 1, 3, 0, 3, 1, 2, 0, 0, 1, 2, 0, 0, 0, 0])),
  ([8, 13], ([.moveR, .moveR, .moveF, .moveF, .moveR, .moveF, .moveR, .moveF], [1, 2, 1, 2, 0, 1, 0, 0, 0, 1, 1, 0, 0, 1, 0, 0])),
  ([8, 14], ([.moveR, .moveR, .moveF, .moveF, .moveR, .moveF, .moveR, .moveF], [2, 2, 1, 1, 0, 2, 1, 1, 0, 2, 1, 1, 0, 2, 0, 0])),
  ([8, 15], ([.moveR, .moveR, .moveF, .moveR, .moveF, .moveR, .moveF, .moveF], [2, 3, 1, 2, 0, 0, 1, 2, 0, 0, 1, 2, 0, 0, 0, 0])),
  ([8, 16], ([.moveR, .moveR, .moveF, .moveF, .moveR, .moveF, .moveR, .moveF], [2, 3, 1, 3, 0, 2, 1, 1, 0, 2, 1, 1, 0, 2, 0, 0]))
]

def obstacles7x7_3 : List Row := [
  ([8, 17], ([.moveR, .moveR, .moveR, .moveR, .moveF, .moveF, .moveF, .moveF], [2, 3, 2, 1, 1, 1, 1, 1, 1, 1, 1, 1, 1, 1, 0, 0])),
  ([8, 18], ([.moveR, .moveR, .moveF, .moveF, .moveR, .moveF, .moveR, .moveF], [2, 1, 1, 3, 0, 3, 1, 3, 0, 2, 1, 1, 0, 2, 0, 0])),
  ([8, 19], ([.moveR, .moveR, .moveF, .moveF, .moveR, .moveF, .moveR, .moveF], [2, 1, 1, 1, 0, 1, 1, 0, 0, 1, 1, 0, 0, 1, 0, 0])),
  ([8, 20], ([.moveR, .moveR, .moveF, .moveF, .moveR, .moveF, .moveR, .moveF], [2, 2, 1, 1, 0, 2, 1, 1, 0, 2, 1, 1, 0, 2, 0, 0])),
  ([8, 21], ([.moveR, .moveR, .moveF, .moveF, .moveR, .moveR, .moveF, .moveF], [2, 2, 1, 2, 0, 1, 1, 2, 0, 1, 1, 2, 0, 1, 0, 0])),
  ([8, 22], ([.moveR, .moveR, .moveF, .moveF, .moveR, .moveF, .moveR, .moveF], [2, 1, 1, 2, 0, 2, 1, 1, 0, 2, 1, 1, 0, 2, 0, 0])),
  ([9, 0], ([.moveR, .moveR, .moveF, .moveF, .moveR, .moveR, .moveF, .moveF], [2, 2, 1, 2, 0, 1, 1, 2, 0, 1, 1, 2, 0, 1, 0, 0])),
  ([9, 1], ([.moveR, .moveR, .moveF, .moveF, .moveR, .moveR, .moveF, .moveF], [2, 2, 2, 2, 1, 1, 2, 2, 0, 1, 2, 2, 0, 1, 0, 0])),
  ([9, 2], ([.moveR, .moveR, .moveF, .moveF, .moveR, .moveR, .moveF, .moveF], [2, 2, 2, 2, 2, 1, 1, 2, 0, 1, 1, 2, 0, 1, 0, 0])),
  ([9, 3], ([.moveR, .moveF, .moveF, .moveR, .moveF, .moveR, .moveF, .moveR], [1, 2, 2, 2, 2, 1, 2, 2, 1, 1, 2, 2, 0, 1, 0, 0])),
  ([9, 4], ([.moveR, .moveR, .moveF, .moveF, .moveR, .moveR, .moveF, .moveF], [1, 2, 1, 2, 1, 1, 1, 2, 0, 1, 1, 2, 0, 1, 0, 0])),
  ([9, 5], ([.moveR, .moveR, .moveF, .moveF, .moveR, .moveR, .moveF, .moveF], [1, 2, 1, 2, 1, 1, 2, 2, 1, 1, 2, 2, 1, 1, 0, 0])),
  ([9, 6], ([.moveR, .moveR, .moveF, .moveF, .moveR, .moveR, .moveF, .moveF], [3, 2, 3, 2, 2, 1, 2, 2, 0, 1, 1, 2, 3, 1, 0, 0])),
  ([9, 7], ([.moveR, .moveR, .moveF, .moveF, .moveR, .moveR, .moveF, .moveF], [3, 2, 3, 2, 3, 1, 2, 2, 0, 1, 2, 2, 0, 1, 0, 0])),
  ([9, 8], ([.moveR, .moveR, .moveF, .moveF, .moveR, .moveR, .moveF, .moveF], [2, 2, 1, 2, 0, 1, 1, 2, 0, 1, 1, 2, 0, 1, 0, 0])),
  ([9, 10], ([.moveR, .moveR, .moveF, .moveF, .moveR, .moveF, .moveR, .moveF], [1, 3, 1, 1, 2, 1, 2, 1, 2, 1, 0, 1, 1, 2, 0, 0])),
  ([9, 11], ([.moveR, .moveR, .moveF, .moveR, .moveF, .moveR, .moveF, .moveF], [2, 2, 2, 2, 0, 2, 0, 2, 2, 0, 0, 2, 2, 0, 0, 0])),
  ([9, 12], ([.moveR, .moveR, .moveF, .moveF, .moveR, .moveR, .moveF, .moveF], [2, 3, 3, 2, 3, 1, 2, 2, 0, 1, 1, 2, 3, 1, 0, 0])),
  ([9, 13], ([.moveR, .moveR, .moveF, .moveF, .moveR, .moveR, .moveF, .moveF], [2, 2, 2, 2, 1, 1, 0, 2, 1, 1, 0, 2, 1, 1, 0, 0])),
  ([9, 14], ([.moveR, .moveR, .moveF, .moveF, .moveR, .moveF, .moveR, .moveF], [1, 2, 1, 1, 1, 2, 1, 1, 0, 2, 1, 1, 1, 2, 0, 0])),
  ([9, 15], ([.moveR, .moveR, .moveF, .moveR, .moveF, .moveR, .moveF, .moveF], [2, 2, 2, 1, 0, 2, 0, 2, 2, 0, 0, 2, 2, 0, 0, 0])),
  ([9, 16], ([.moveR, .moveR, .moveF, .moveF, .moveR, .moveF, .moveR, .moveF], [1, 3, 1, 0, 0, 1, 1, 1, 0, 0, 2, 2, 0, 1, 0, 0])),
  ([9, 17], ([.moveR, .moveR, .moveF, .moveR, .moveF, .moveR, .moveF, .moveF], [2, 3, 2, 3, 2, 0, 0, 2, 2, 0, 0, 2, 2, 0, 0, 0])),
  ([9, 18], ([.moveR, .moveR, .moveF, .moveF, .moveR, .moveR, .moveF, .moveF], [2, 1, 2, 3, 3, 1, 2, 2, 0, 1, 0, 2, 2, 1, 0, 0])),
  ([9, 19], ([.moveR, .moveR, .moveF, .moveF, .moveR, .moveF, .moveR, .moveF], [1, 1, 1, 1, 1, 1, 1, 0, 0, 1, 2, 0, 1, 0, 0, 0])),
  ([9, 20], ([.moveR, .moveR, .moveF, .moveF, .moveR, .moveF, .moveR, .moveF], [1, 2, 1, 1, 2, 2, 2, 1, 1, 1, 1, 1, 1, 2, 0, 0])),
  ([9, 21], ([.moveR, .moveR, .moveF, .moveR, .moveF, .moveR, .moveF, .moveF], [2, 2, 2, 1, 0, 2, 0, 2, 2, 0, 0, 2, 2, 0, 0, 0])),
  ([9, 22], ([.moveR, .moveR, .moveF, .moveF, .moveR, .moveR, .moveF, .moveF], [2, 1, 2, 0, 3, 1, 2, 2, 0, 1, 2, 2, 0, 1, 0, 0])),
  ([10, 0], ([.moveR, .moveR, .moveF, .moveF, .moveR, .moveF, .moveR, .moveF], [2, 3, 0, 2, 2, 0, 0, 2, 2, 0, 0, 2, 2, 0, 0, 0])),
  ([10, 1], ([.moveR, .moveR, .moveF, .moveF, .moveR, .moveF, .moveR, .moveF], [2, 3, 2, 2, 0, 0, 0, 2, 2, 0, 2, 2, 0, 0, 0, 0])),
  ([10, 2], ([.moveR, .moveR, .moveF, .moveF, .moveR, .moveF, .moveR, .moveF], [2, 3, 2, 2, 2, 0, 0, 2, 2, 0, 0, 2, 2, 0, 0, 0])),
  ([10, 3], ([.moveR, .moveF, .moveF, .moveR, .moveF, .moveR, .moveF, .moveR], [1, 3, 2, 2, 2, 0, 2, 2, 0, 0, 0, 2, 2, 0, 0, 0])),
  ([10, 4], ([.moveR, .moveR, .moveF, .moveF, .moveR, .moveF, .moveR, .moveF], [0, 3, 0, 2, 2, 0, 0, 2, 2, 0, 0, 2, 2, 0, 0, 0])),
  ([10, 5], ([.moveR, .moveR, .moveF, .moveF, .moveR, .moveF, .moveR, .moveF], [1, 3, 1, 2, 1, 0, 2, 2, 1, 0, 2, 2, 1, 0, 0, 0])),
  ([10, 6], ([.moveR, .moveR, .moveF, .moveF, .moveR, .moveF, .moveR, .moveF], [1, 3, 1, 2, 0, 0, 1, 2, 0, 0, 1, 2, 0, 0, 0, 0])),
  ([10, 7], ([.moveR, .moveR, .moveF, .moveF, .moveR, .moveF, .moveR, .moveF], [3, 3, 3, 2, 1, 0, 0, 2, 2, 0, 2, 2, 0, 0, 0, 0])),
  ([10, 8], ([.moveR, .moveR, .moveF, .moveF, .moveR, .moveF, .moveR, .moveF], [2, 3, 1, 2, 0, 0, 1, 2, 0, 0, 1, 2, 0, 0, 0, 0])),
  ([10, 9], ([.moveR, .moveR, .moveF, .moveF, .moveR, .moveF, .moveR, .moveF], [1, 3, 1, 1, 2, 1, 2, 1, 2, 1, 0, 1, 1, 2, 0, 0])),
  ([10, 11], ([.moveR, .moveF, .moveR, .moveR, .moveF, .moveR, .moveF, .moveF], [1, 3, 2, 1, 2, 1, 2, 3, 1, 0, 0, 3, 2, 1, 0, 0])),
  ([10, 12], ([.moveR, .moveR, .moveF, .moveF, .moveR, .moveF, .moveR, .moveF], [3, 3, 2, 3, 1, 0, 2, 3, 1, 0, 2, 3, 1, 0, 0, 0])),
  ([10, 13], ([.moveR, .moveR, .moveF, .moveF, .moveR, .moveF, .moveR, .moveF], [3, 2, 2, 2, 0, 1, 2, 0, 1, 0, 2, 0, 1, 0, 0, 0])),
  ([10, 14], ([.moveR, .moveR, .moveF, .moveF, .moveR, .moveF, .moveR, .moveF], [1, 2, 1, 1, 1, 2, 2, 1, 1, 2, 2, 1, 1, 2, 0, 0])),
  ([10, 15], ([.moveR, .moveR, .moveF, .moveR, .moveF, .moveR, .moveF, .moveF], [1, 3, 1, 2, 1, 0, 2, 2, 1, 0, 2, 2, 1, 0, 0, 0])),
  ([10, 16], ([.moveR, .moveR, .moveF, .moveF, .moveR, .moveF, .moveR, .moveF], [3, 3, 0, 3, 2, 1, 1, 1, 3, 2, 1, 1, 3, 2, 0, 0])),
  ([10, 17], ([.moveR, .moveR, .moveF, .moveF, .moveR, .moveR, .moveF, .moveF], [3, 3, 2, 3, 0, 2, 2, 2, 0, 1, 2, 2, 0, 1, 0, 0])),
  ([10, 18], ([.moveR, .moveR, .moveF, .moveF, .moveR, .moveF, .moveR, .moveF], [3, 1, 2, 3, 0, 3, 0, 3, 2, 1, 1, 1, 3, 2, 0, 0])),
  ([10, 19], ([.moveR, .moveR, .moveF, .moveF, .moveR, .moveF, .moveR, .moveF], [3, 1, 2, 1, 2, 1, 1, 0, 1, 2, 0, 1, 1, 2, 0, 0])),
  ([10, 20], ([.moveR, .moveR, .moveF, .moveF, .moveR, .moveF, .moveR, .moveF], [3, 2, 1, 1, 3, 2, 1, 1, 3, 2, 1, 1, 3, 2, 0, 0])),
  ([10, 21], ([.moveR, .moveR, .moveF, .moveF, .moveR, .moveR, .moveF, .moveF], [3, 2, 2, 2, 0, 1, 2, 2, 0, 1, 2, 2, 0, 1, 0, 0])),
  ([10, 22], ([.moveR, .moveR, .moveF, .moveF, .moveR, .moveF, .moveR, .moveF], [3, 1, 2, 2, 0, 2, 1, 1, 3, 2, 1, 1, 3, 2, 0, 0])),
  ([11, 0], ([.moveR, .moveR, .moveF, .moveR, .moveF, .moveF, .moveR, .moveF], [2, 3, 1, 2, 0, 3, 1, 2, 0, 0, 1, 2, 0, 0, 0, 0])),
  ([11, 1], ([.moveR, .moveR, .moveF, .moveR, .moveF, .moveF, .moveR, .moveF], [2, 3, 2, 2, 1, 3, 1, 2, 3, 0, 1, 2, 3, 0, 0, 0])),
  ([11, 2], ([.moveR, .moveR, .moveF, .moveF, .moveR, .moveF, .moveR, .moveF], [2, 3, 2, 0, 0, 3, 0, 2, 2, 0, 2, 2, 0, 0, 0, 0])),
  ([11, 3], ([.moveR, .moveF, .moveF, .moveR, .moveF, .moveR, .moveF, .moveR], [1, 3, 2, 3, 2, 2, 2, 2, 1, 0, 1, 2, 3, 0, 0, 0])),
  ([11, 4], ([.moveR, .moveR, .moveF, .moveF, .moveR, .moveF, .moveR, .moveF], [2, 3, 1, 0, 3, 2, 2, 1, 0, 2, 2, 1, 0, 2, 0, 0])),
  ([11, 5], ([.moveR, .moveR, .moveF, .moveR, .moveF, .moveF, .moveR, .moveF], [0, 3, 2, 2, 0, 3, 2, 2, 0, 0, 2, 2, 0, 0, 0, 0])),
  ([11, 6], ([.moveR, .moveR, .moveF, .moveR, .moveF, .moveF, .moveR, .moveF], [2, 3, 2, 2, 0, 3, 1, 2, 0, 0, 1, 2, 0, 0, 0, 0])),
  ([11, 7], ([.moveR, .moveR, .moveF, .moveF, .moveR, .moveF, .moveR, .moveF], [1, 3, 2, 0, 3, 1, 2, 2, 1, 0, 2, 2, 1, 0, 0, 0])),
  ([11, 8], ([.moveR, .moveR, .moveF, .moveF, .moveR, .moveF, .moveR, .moveF], [2, 3, 1, 0, 3, 0, 1, 2, 0, 0, 1, 2, 0, 0, 0, 0])),
  ([11, 9], ([.moveR, .moveR, .moveF, .moveR, .moveF, .moveR, .moveF, .moveF], [2, 2, 2, 2, 0, 2, 0, 2, 2, 0, 0, 2, 2, 0, 0, 0])),
  ([11, 10], ([.moveR, .moveF, .moveR, .moveR, .moveF, .moveR, .moveF, .moveF], [1, 3, 2, 1, 2, 1, 2, 3, 1, 0, 0, 3, 2, 1, 0, 0])),
  ([11, 12], ([.moveR, .moveR, .moveF, .moveF, .moveR, .moveF, .moveR, .moveF], [2, 3, 0, 3, 2, 2, 1, 2, 3, 2, 2, 1, 0, 2, 0, 0])),
  ([11, 13], ([.moveR, .moveR, .moveF, .moveF, .moveR, .moveF, .moveR, .moveF], [3, 2, 0, 2, 3, 1, 2, 0, 0, 1, 2, 0, 0, 1, 0, 0])),
  ([11, 14], ([.moveR, .moveR, .moveF, .moveF, .moveR, .moveF, .moveR, .moveF], [3, 2, 0, 1, 3, 2, 2, 1, 0, 2, 2, 1, 0, 2, 0, 0]))
]

def obstacles7x7_4 : List Row := [
  ([11, 15], ([.moveR, .moveR, .moveF, .moveR, .moveF, .moveR, .moveF, .moveF], [1, 3, 1, 2, 0, 0, 2, 2, 1, 0, 2, 2, 1, 0, 0, 0])),
  ([11, 16], ([.moveR, .moveR, .moveF, .moveF, .moveR, .moveF, .moveR, .moveF], [2, 3, 0, 3, 3, 2, 2, 1, 0, 2, 2, 1, 0, 2, 0, 0])),
  ([11, 17], ([.moveR, .moveR, .moveF, .moveR, .moveF, .moveR, .moveF, .moveF], [3, 3, 2, 2, 3, 2, 0, 2, 2, 0, 0, 2, 2, 0, 0, 0])),
  ([11, 18], ([.moveR, .moveR, .moveF, .moveF, .moveR, .moveF, .moveR, .moveF], [3, 1, 0, 3, 3, 3, 2, 3, 0, 2, 2, 1, 0, 2, 0, 0])),
  ([11, 19], ([.moveR, .moveR, .moveF, .moveF, .moveR, .moveF, .moveR, .moveF], [3, 1, 0, 2, 3, 1, 2, 2, 0, 1, 2, 2, 0, 1, 0, 0])),
  ([11, 20], ([.moveR, .moveR, .moveF, .moveF, .moveR, .moveF, .moveR, .moveF], [3, 2, 0, 1, 3, 2, 2, 1, 0, 2, 2, 1, 0, 2, 0, 0])),
  ([11, 21], ([.moveR, .moveR, .moveF, .moveF, .moveR, .moveR, .moveF, .moveF], [3, 2, 0, 2, 3, 1, 2, 2, 0, 1, 2, 2, 0, 1, 0, 0])),
  ([11, 22], ([.moveR, .moveR, .moveF, .moveF, .moveR, .moveF, .moveR, .moveF], [3, 1, 0, 2, 3, 2, 2, 1, 0, 2, 2, 1, 0, 2, 0, 0])),
  ([12, 0], ([.moveR, .moveR, .moveF, .moveF, .moveR, .moveF, .moveR, .moveF], [2, 3, 1, 3, 0, 3, 0, 2, 2, 0, 0, 2, 2, 0, 0, 0])),
  ([12, 1], ([.moveR, .moveR, .moveF, .moveF, .moveR, .moveF, .moveR, .moveF], [2, 3, 2, 3, 0, 3, 0, 2, 2, 0, 2, 2, 0, 0, 0, 0])),
  ([12, 2], ([.moveR, .moveR, .moveF, .moveF, .moveR, .moveF, .moveR, .moveF], [2, 3, 2, 3, 2, 3, 0, 2, 2, 0, 0, 2, 2, 0, 0, 0])),
  ([12, 3], ([.moveR, .moveF, .moveF, .moveR, .moveF, .moveR, .moveF, .moveR], [1, 3, 2, 3, 2, 3, 2, 2, 0, 0, 0, 2, 2, 0, 0, 0])),
  ([12, 4], ([.moveR, .moveR, .moveF, .moveF, .moveR, .moveF, .moveR, .moveF], [2, 3, 2, 3, 1, 2, 3, 1, 1, 2, 3, 1, 1, 2, 0, 0])),
  ([12, 5], ([.moveR, .moveR, .moveF, .moveF, .moveR, .moveR, .moveF, .moveF], [2, 3, 1, 3, 2, 3, 0, 2, 2, 0, 0, 2, 2, 0, 0, 0])),
  ([12, 6], ([.moveR, .moveR, .moveF, .moveF, .moveR, .moveF, .moveR, .moveF], [3, 3, 3, 3, 0, 3, 0, 2, 2, 0, 0, 2, 2, 0, 0, 0])),
  ([12, 7], ([.moveR, .moveR, .moveF, .moveF, .moveR, .moveF, .moveR, .moveF], [2, 3, 2, 3, 1, 3, 0, 2, 2, 0, 2, 2, 0, 0, 0, 0])),
  ([12, 8], ([.moveR, .moveR, .moveF, .moveF, .moveR, .moveF, .moveR, .moveF], [0, 3, 1, 3, 0, 3, 1, 2, 0, 0, 1, 2, 0, 0, 0, 0])),
  ([12, 9], ([.moveR, .moveR, .moveF, .moveF, .moveR, .moveR, .moveF, .moveF], [2, 3, 3, 2, 3, 1, 2, 2, 0, 1, 1, 2, 3, 1, 0, 0])),
  ([12, 10], ([.moveR, .moveR, .moveF, .moveF, .moveR, .moveF, .moveR, .moveF], [3, 3, 2, 3, 1, 0, 2, 3, 1, 0, 2, 3, 1, 0, 0, 0])),
  ([12, 11], ([.moveR, .moveR, .moveF, .moveF, .moveR, .moveF, .moveR, .moveF], [2, 3, 0, 3, 2, 2, 1, 2, 3, 2, 2, 1, 0, 2, 0, 0])),
  ([12, 13], ([.moveR, .moveR, .moveF, .moveF, .moveR, .moveF, .moveR, .moveF], [2, 2, 2, 2, 3, 1, 2, 0, 1, 0, 2, 0, 1, 0, 0, 0])),
  ([12, 14], ([.moveR, .moveR, .moveF, .moveF, .moveR, .moveF, .moveR, .moveF], [3, 2, 3, 1, 3, 2, 1, 1, 3, 2, 1, 1, 3, 2, 0, 0])),
  ([12, 15], ([.moveR, .moveR, .moveF, .moveR, .moveF, .moveR, .moveF, .moveF], [3, 3, 3, 2, 1, 0, 1, 2, 3, 0, 3, 2, 1, 0, 0, 0])),
  ([12, 16], ([.moveR, .moveR, .moveF, .moveF, .moveR, .moveF, .moveR, .moveF], [1, 3, 2, 3, 1, 2, 2, 1, 1, 2, 2, 1, 1, 2, 0, 0])),
  ([12, 17], ([.moveR, .moveR, .moveF, .moveR, .moveF, .moveR, .moveF, .moveF], [2, 3, 2, 3, 1, 3, 2, 2, 0, 0, 3, 2, 1, 0, 0, 0])),
  ([12, 18], ([.moveR, .moveR, .moveF, .moveF, .moveR, .moveF, .moveR, .moveF], [3, 1, 3, 3, 3, 3, 0, 3, 2, 1, 1, 1, 3, 2, 0, 0])),
  ([12, 19], ([.moveR, .moveR, .moveF, .moveF, .moveR, .moveF, .moveR, .moveF], [3, 1, 3, 1, 3, 1, 2, 0, 0, 1, 2, 0, 1, 0, 0, 0])),
  ([12, 20], ([.moveR, .moveR, .moveF, .moveF, .moveR, .moveF, .moveR, .moveF], [3, 2, 3, 1, 3, 2, 1, 1, 3, 2, 1, 1, 3, 2, 0, 0])),
  ([12, 21], ([.moveR, .moveR, .moveF, .moveF, .moveR, .moveR, .moveF, .moveF], [3, 2, 3, 2, 3, 1, 2, 2, 0, 1, 2, 2, 0, 1, 0, 0])),
  ([12, 22], ([.moveR, .moveR, .moveF, .moveF, .moveR, .moveF, .moveR, .moveF], [3, 1, 3, 2, 3, 2, 1, 1, 3, 2, 1, 1, 3, 2, 0, 0])),
  ([13, 0], ([.moveR, .moveR, .moveF, .moveF, .moveR, .moveF, .moveR, .moveF], [2, 2, 1, 2, 0, 1, 1, 0, 0, 1, 1, 0, 0, 1, 0, 0])),
  ([13, 1], ([.moveR, .moveR, .moveF, .moveF, .moveR, .moveF, .moveR, .moveF], [2, 2, 2, 2, 1, 1, 2, 0, 0, 1, 2, 0, 0, 1, 0, 0])),
  ([13, 2], ([.moveR, .moveR, .moveF, .moveF, .moveR, .moveF, .moveR, .moveF], [2, 2, 2, 2, 2, 1, 1, 0, 0, 1, 1, 0, 0, 1, 0, 0])),
  ([13, 3], ([.moveR, .moveF, .moveF, .moveR, .moveF, .moveR, .moveF, .moveR], [1, 2, 2, 2, 2, 2, 2, 1, 0, 1, 2, 1, 0, 1, 0, 0])),
  ([13, 4], ([.moveR, .moveR, .moveF, .moveF, .moveR, .moveR, .moveF, .moveF], [2, 2, 2, 2, 1, 2, 1, 1, 2, 2, 2, 0, 1, 2, 0, 0])),
  ([13, 5], ([.moveR, .moveR, .moveF, .moveF, .moveR, .moveF, .moveR, .moveF], [2, 2, 2, 2, 3, 1, 2, 0, 1, 0, 2, 0, 1, 0, 0, 0])),
  ([13, 6], ([.moveR, .moveR, .moveF, .moveF, .moveR, .moveF, .moveR, .moveF], [3, 2, 3, 2, 2, 1, 2, 0, 1, 0, 2, 0, 1, 0, 0, 0])),
  ([13, 7], ([.moveR, .moveR, .moveF, .moveF, .moveR, .moveF, .moveR, .moveF], [3, 2, 3, 2, 3, 1, 2, 0, 0, 1, 2, 0, 0, 1, 0, 0])),
  ([13, 8], ([.moveR, .moveR, .moveF, .moveF, .moveR, .moveF, .moveR, .moveF], [1, 2, 1, 2, 0, 1, 0, 0, 0, 1, 1, 0, 0, 1, 0, 0])),
  ([13, 9], ([.moveR, .moveR, .moveF, .moveF, .moveR, .moveR, .moveF, .moveF], [2, 2, 2, 2, 1, 1, 0, 2, 1, 1, 0, 2, 1, 1, 0, 0])),
  ([13, 10], ([.moveR, .moveR, .moveF, .moveF, .moveR, .moveF, .moveR, .moveF], [3, 2, 2, 2, 0, 1, 2, 0, 1, 0, 2, 0, 1, 0, 0, 0])),
  ([13, 11], ([.moveR, .moveR, .moveF, .moveF, .moveR, .moveF, .moveR, .moveF], [3, 2, 0, 2, 3, 1, 2, 0, 0, 1, 2, 0, 0, 1, 0, 0])),
  ([13, 12], ([.moveR, .moveR, .moveF, .moveF, .moveR, .moveF, .moveR, .moveF], [2, 2, 2, 2, 3, 1, 2, 0, 1, 0, 2, 0, 1, 0, 0, 0])),
  ([13, 14], ([.moveR, .moveR, .moveF, .moveF, .moveR, .moveF, .moveR, .moveF], [2, 2, 2, 1, 1, 2, 0, 1, 1, 2, 0, 1, 1, 2, 0, 0])),
  ([13, 15], ([.moveR, .moveR, .moveF, .moveR, .moveF, .moveR, .moveF, .moveF], [2, 3, 2, 2, 1, 0, 2, 0, 1, 0, 2, 0, 1, 0, 0, 0])),
  ([13, 16], ([.moveR, .moveR, .moveF, .moveF, .moveR, .moveF, .moveR, .moveF], [2, 3, 2, 3, 2, 1, 0, 1, 1, 2, 0, 1, 1, 2, 0, 0])),
  ([13, 17], ([.moveR, .moveR, .moveF, .moveF, .moveR, .moveF, .moveR, .moveF], [0, 3, 2, 3, 1, 3, 2, 2, 1, 1, 2, 2, 1, 1, 0, 0])),
  ([13, 18], ([.moveR, .moveR, .moveF, .moveF, .moveR, .moveF, .moveR, .moveF], [1, 1, 1, 3, 1, 3, 3, 1, 2, 1, 0, 1, 1, 2, 0, 0])),
  ([13, 19], ([.moveR, .moveR, .moveF, .moveF, .moveR, .moveF, .moveR, .moveF], [2, 1, 3, 1, 1, 1, 0, 0, 2, 0, 3, 0, 1, 1, 0, 0])),
  ([13, 20], ([.moveR, .moveR, .moveF, .moveF, .moveR, .moveF, .moveR, .moveF], [2, 2, 2, 1, 1, 2, 0, 1, 1, 2, 0, 1, 1, 2, 0, 0])),
  ([13, 21], ([.moveR, .moveR, .moveF, .moveF, .moveR, .moveR, .moveF, .moveF], [2, 2, 2, 2, 1, 1, 0, 2, 1, 1, 0, 2, 1, 1, 0, 0])),
  ([13, 22], ([.moveR, .moveR, .moveF, .moveF, .moveR, .moveF, .moveR, .moveF], [2, 1, 2, 2, 1, 2, 0, 1, 1, 2, 0, 1, 1, 2, 0, 0])),
  ([14, 0], ([.moveR, .moveR, .moveF, .moveF, .moveR, .moveF, .moveR, .moveF], [2, 2, 1, 1, 0, 2, 1, 1, 0, 2, 1, 1, 0, 2, 0, 0])),
  ([14, 1], ([.moveR, .moveR, .moveF, .moveF, .moveR, .moveF, .moveR, .moveF], [2, 2, 2, 1, 1, 2, 2, 1, 0, 2, 2, 1, 0, 2, 0, 0])),
  ([14, 2], ([.moveR, .moveR, .moveF, .moveF, .moveR, .moveF, .moveR, .moveF], [2, 2, 2, 1, 2, 2, 1, 1, 0, 2, 1, 1, 0, 2, 0, 0])),
  ([14, 3], ([.moveR, .moveF, .moveF, .moveR, .moveF, .moveR, .moveF, .moveR], [1, 2, 2, 1, 2, 2, 2, 1, 1, 2, 2, 1, 0, 2, 0, 0])),
  ([14, 4], ([.moveR, .moveR, .moveF, .moveF, .moveR, .moveF, .moveR, .moveF], [1, 2, 1, 1, 1, 2, 1, 1, 0, 2, 1, 1, 0, 2, 0, 0])),
  ([14, 5], ([.moveR, .moveR, .moveF, .moveF, .moveR, .moveF, .moveR, .moveF], [2, 2, 2, 1, 1, 2, 2, 1, 1, 1, 1, 1, 1, 2, 0, 0])),
  ([14, 6], ([.moveR, .moveR, .moveF, .moveF, .moveR, .moveF, .moveR, .moveF], [3, 2, 3, 1, 2, 2, 1, 1, 3, 2, 1, 1, 3, 2, 0, 0])),
  ([14, 7], ([.moveR, .moveR, .moveF, .moveF, .moveR, .moveF, .moveR, .moveF], [3, 2, 3, 1, 3, 2, 2, 1, 0, 2, 2, 1, 0, 2, 0, 0])),
  ([14, 8], ([.moveR, .moveR, .moveF, .moveF, .moveR, .moveF, .moveR, .moveF], [2, 2, 1, 1, 0, 2, 1, 1, 0, 2, 1, 1, 0, 2, 0, 0])),
  ([14, 9], ([.moveR, .moveR, .moveF, .moveF, .moveR, .moveF, .moveR, .moveF], [1, 2, 1, 1, 1, 2, 1, 1, 0, 2, 1, 1, 1, 2, 0, 0])),
  ([14, 10], ([.moveR, .moveR, .moveF, .moveF, .moveR, .moveF, .moveR, .moveF], [1, 2, 1, 1, 1, 2, 2, 1, 1, 2, 2, 1, 1, 2, 0, 0])),
  ([14, 11], ([.moveR, .moveR, .moveF, .moveF, .moveR, .moveF, .moveR, .moveF], [3, 2, 0, 1, 3, 2, 2, 1, 0, 2, 2, 1, 0, 2, 0, 0]))
]

def obstacles7x7_5 : List Row := [
  ([14, 12], ([.moveR, .moveR, .moveF, .moveF, .moveR, .moveF, .moveR, .moveF], [3, 2, 3, 1, 3, 2, 1, 1, 3, 2, 1, 1, 3, 2, 0, 0])),
  ([14, 13], ([.moveR, .moveR, .moveF, .moveF, .moveR, .moveF, .moveR, .moveF], [2, 2, 2, 1, 1, 2, 0, 1, 1, 2, 0, 1, 1, 2, 0, 0])),
  ([14, 15], ([.moveR, .moveR, .moveF, .moveR, .moveF, .moveR, .moveF, .moveF], [1, 3, 1, 1, 2, 1, 2, 2, 0, 2, 0, 1, 2, 2, 0, 0])),
  ([14, 16], ([.moveR, .moveR, .moveF, .moveF, .moveR, .moveF, .moveR, .moveF], [2, 3, 1, 1, 3, 1, 1, 1, 3, 1, 1, 1, 3, 1, 0, 0])),
  ([14, 17], ([.moveR, .moveR, .moveF, .moveF, .moveR, .moveF, .moveR, .moveF], [2, 3, 2, 1, 1, 1, 1, 1, 1, 1, 1, 1, 1, 2, 0, 0])),
  ([14, 18], ([.moveR, .moveR, .moveF, .moveF, .moveR, .moveF, .moveR, .moveF], [2, 1, 3, 1, 1, 2, 3, 1, 1, 2, 3, 1, 1, 2, 0, 0])),
  ([14, 19], ([.moveR, .moveR, .moveR, .moveR, .moveF, .moveF, .moveF, .moveF], [1, 1, 1, 1, 1, 1, 0, 0, 1, 1, 1, 1, 1, 1, 0, 0])),
  ([14, 20], ([.moveR, .moveR, .moveF, .moveF, .moveR, .moveF, .moveR, .moveF], [0, 2, 0, 1, 0, 2, 1, 1, 0, 2, 1, 1, 0, 2, 0, 0])),
  ([14, 21], ([.moveR, .moveR, .moveR, .moveR, .moveF, .moveF, .moveF, .moveF], [1, 2, 1, 1, 1, 1, 0, 0, 1, 1, 1, 1, 1, 1, 0, 0])),
  ([14, 22], ([.moveR, .moveR, .moveF, .moveF, .moveR, .moveF, .moveR, .moveF], [2, 1, 0, 2, 2, 1, 0, 2, 2, 1, 0, 2, 2, 1, 0, 0])),
  ([15, 0], ([.moveR, .moveR, .moveF, .moveR, .moveF, .moveR, .moveF, .moveF], [2, 3, 1, 2, 0, 0, 1, 2, 0, 0, 1, 2, 0, 0, 0, 0])),
  ([15, 1], ([.moveR, .moveR, .moveF, .moveR, .moveF, .moveR, .moveF, .moveF], [2, 3, 2, 2, 1, 0, 1, 2, 3, 0, 1, 2, 3, 0, 0, 0])),
  ([15, 2], ([.moveR, .moveR, .moveF, .moveR, .moveF, .moveR, .moveF, .moveF], [2, 3, 2, 2, 2, 0, 1, 2, 0, 0, 1, 2, 0, 0, 0, 0])),
  ([15, 3], ([.moveR, .moveF, .moveF, .moveR, .moveF, .moveR, .moveF, .moveR], [1, 3, 2, 0, 2, 0, 0, 2, 2, 0, 0, 2, 2, 0, 0, 0])),
  ([15, 4], ([.moveR, .moveR, .moveF, .moveR, .moveF, .moveR, .moveF, .moveF], [1, 3, 0, 2, 2, 0, 1, 2, 0, 0, 1, 2, 0, 0, 0, 0])),
  ([15, 5], ([.moveR, .moveR, .moveF, .moveR, .moveF, .moveR, .moveF, .moveF], [1, 3, 1, 2, 1, 0, 2, 2, 1, 0, 2, 2, 1, 0, 0, 0])),
  ([15, 6], ([.moveR, .moveR, .moveF, .moveR, .moveF, .moveR, .moveF, .moveF], [3, 3, 3, 2, 1, 0, 0, 2, 2, 0, 1, 2, 0, 0, 0, 0])),
  ([15, 7], ([.moveR, .moveR, .moveF, .moveR, .moveF, .moveR, .moveF, .moveF], [3, 3, 3, 2, 3, 0, 1, 2, 3, 0, 1, 2, 3, 0, 0, 0])),
  ([15, 8], ([.moveR, .moveR, .moveF, .moveR, .moveF, .moveR, .moveF, .moveF], [2, 3, 1, 2, 0, 0, 1, 2, 0, 0, 1, 2, 0, 0, 0, 0])),
  ([15, 9], ([.moveR, .moveR, .moveF, .moveR, .moveF, .moveR, .moveF, .moveF], [2, 2, 2, 1, 0, 2, 0, 2, 2, 0, 0, 2, 2, 0, 0, 0])),
  ([15, 10], ([.moveR, .moveR, .moveF, .moveR, .moveF, .moveR, .moveF, .moveF], [1, 3, 1, 2, 1, 0, 2, 2, 1, 0, 2, 2, 1, 0, 0, 0])),
  ([15, 11], ([.moveR, .moveR, .moveF, .moveR, .moveF, .moveR, .moveF, .moveF], [1, 3, 1, 2, 0, 0, 2, 2, 1, 0, 2, 2, 1, 0, 0, 0])),
  ([15, 12], ([.moveR, .moveR, .moveF, .moveR, .moveF, .moveR, .moveF, .moveF], [3, 3, 3, 2, 1, 0, 1, 2, 3, 0, 3, 2, 1, 0, 0, 0])),
  ([15, 13], ([.moveR, .moveR, .moveF, .moveR, .moveF, .moveR, .moveF, .moveF], [2, 3, 2, 2, 1, 0, 2, 0, 1, 0, 2, 0, 1, 0, 0, 0])),
  ([15, 14], ([.moveR, .moveR, .moveF, .moveR, .moveF, .moveR, .moveF, .moveF], [1, 3, 1, 1, 2, 1, 2, 2, 0, 2, 0, 1, 2, 2, 0, 0])),
  ([15, 16], ([.moveR, .moveR, .moveF, .moveF, .moveR, .moveR, .moveF, .moveF], [1, 3, 2, 1, 0, 2, 0, 1, 2, 2, 2, 2, 0, 1, 0, 0])),
  ([15, 17], ([.moveR, .moveR, .moveF, .moveR, .moveF, .moveR, .moveF, .moveF], [3, 3, 2, 3, 2, 0, 0, 2, 2, 0, 0, 2, 2, 0, 0, 0])),
  ([15, 18], ([.moveR, .moveR, .moveF, .moveR, .moveF, .moveR, .moveF, .moveF], [3, 1, 2, 3, 2, 0, 2, 1, 0, 1, 1, 2, 2, 1, 0, 0])),
  ([15, 19], ([.moveR, .moveR, .moveF, .moveF, .moveR, .moveF, .moveR, .moveF], [1, 1, 1, 1, 0, 1, 0, 0, 1, 1, 2, 0, 1, 0, 0, 0])),
  ([15, 20], ([.moveR, .moveR, .moveF, .moveF, .moveR, .moveF, .moveR, .moveF], [1, 2, 1, 1, 1, 2, 1, 1, 1, 2, 0, 1, 1, 2, 0, 0])),
  ([15, 21], ([.moveR, .moveR, .moveF, .moveR, .moveF, .moveR, .moveF, .moveF], [3, 2, 2, 1, 0, 2, 0, 2, 2, 0, 0, 2, 2, 0, 0, 0])),
  ([15, 22], ([.moveR, .moveR, .moveF, .moveR, .moveF, .moveR, .moveF, .moveF], [3, 1, 2, 2, 0, 1, 2, 2, 0, 1, 2, 2, 0, 2, 0, 0])),
  ([16, 0], ([.moveR, .moveR, .moveF, .moveF, .moveR, .moveF, .moveR, .moveF], [2, 3, 1, 3, 0, 2, 1, 1, 0, 2, 1, 1, 0, 2, 0, 0])),
  ([16, 1], ([.moveR, .moveR, .moveF, .moveF, .moveR, .moveF, .moveR, .moveF], [2, 3, 2, 3, 1, 2, 2, 1, 0, 2, 2, 1, 0, 2, 0, 0])),
  ([16, 2], ([.moveR, .moveR, .moveF, .moveF, .moveR, .moveF, .moveR, .moveF], [2, 3, 2, 3, 2, 2, 1, 1, 0, 2, 1, 1, 0, 2, 0, 0])),
  ([16, 3], ([.moveR, .moveF, .moveF, .moveR, .moveF, .moveR, .moveF, .moveR], [1, 3, 2, 3, 2, 2, 2, 1, 1, 2, 2, 1, 0, 2, 0, 0])),
  ([16, 4], ([.moveR, .moveR, .moveF, .moveF, .moveR, .moveF, .moveR, .moveF], [2, 3, 2, 2, 2, 0, 1, 1, 3, 1, 1, 1, 3, 1, 0, 0])),
  ([16, 5], ([.moveR, .moveR, .moveF, .moveF, .moveR, .moveF, .moveR, .moveF], [1, 3, 1, 3, 3, 2, 3, 1, 1, 2, 3, 1, 1, 2, 0, 0])),
  ([16, 6], ([.moveR, .moveR, .moveF, .moveF, .moveR, .moveF, .moveR, .moveF], [3, 3, 3, 3, 1, 2, 3, 1, 1, 2, 3, 1, 1, 2, 0, 0])),
  ([16, 7], ([.moveR, .moveR, .moveF, .moveF, .moveR, .moveF, .moveR, .moveF], [3, 3, 3, 3, 3, 2, 2, 1, 0, 2, 2, 1, 0, 2, 0, 0])),
  ([16, 8], ([.moveR, .moveR, .moveF, .moveF, .moveR, .moveF, .moveR, .moveF], [2, 3, 1, 3, 0, 2, 1, 1, 0, 2, 1, 1, 0, 2, 0, 0])),
  ([16, 9], ([.moveR, .moveR, .moveF, .moveF, .moveR, .moveF, .moveR, .moveF], [1, 3, 1, 0, 0, 1, 1, 1, 0, 0, 2, 2, 0, 1, 0, 0])),
  ([16, 10], ([.moveR, .moveR, .moveF, .moveF, .moveR, .moveF, .moveR, .moveF], [3, 3, 0, 3, 2, 1, 1, 1, 3, 2, 1, 1, 3, 2, 0, 0])),
  ([16, 11], ([.moveR, .moveR, .moveF, .moveF, .moveR, .moveF, .moveR, .moveF], [2, 3, 0, 3, 3, 2, 2, 1, 0, 2, 2, 1, 0, 2, 0, 0])),
  ([16, 12], ([.moveR, .moveR, .moveF, .moveF, .moveR, .moveF, .moveR, .moveF], [1, 3, 2, 3, 1, 2, 2, 1, 1, 2, 2, 1, 1, 2, 0, 0])),
  ([16, 13], ([.moveR, .moveR, .moveF, .moveF, .moveR, .moveF, .moveR, .moveF], [2, 3, 2, 3, 2, 1, 0, 1, 1, 2, 0, 1, 1, 2, 0, 0])),
  ([16, 14], ([.moveR, .moveR, .moveF, .moveF, .moveR, .moveF, .moveR, .moveF], [2, 3, 1, 1, 3, 1, 1, 1, 3, 1, 1, 1, 3, 1, 0, 0])),
  ([16, 15], ([.moveR, .moveR, .moveF, .moveF, .moveR, .moveR, .moveF, .moveF], [1, 3, 2, 1, 0, 2, 0, 1, 2, 2, 2, 2, 0, 1, 0, 0])),
  ([16, 17], ([.moveR, .moveR, .moveF, .moveF, .moveR, .moveF, .moveR, .moveF], [2, 3, 2, 3, 1, 3, 1, 0, 1, 2, 0, 0, 1, 2, 0, 0])),
  ([16, 18], ([.moveR, .moveR, .moveF, .moveF, .moveR, .moveF, .moveR, .moveF], [3, 1, 3, 3, 2, 3, 1, 1, 3, 1, 1, 1, 3, 1, 0, 0])),
  ([16, 19], ([.moveR, .moveR, .moveF, .moveF, .moveR, .moveF, .moveR, .moveF], [3, 1, 2, 1, 2, 1, 1, 0, 1, 2, 0, 1, 1, 2, 0, 0])),
  ([16, 20], ([.moveR, .moveR, .moveF, .moveF, .moveR, .moveF, .moveR, .moveF], [1, 2, 1, 1, 0, 2, 2, 1, 1, 2, 2, 1, 1, 2, 0, 0])),
  ([16, 21], ([.moveR, .moveR, .moveF, .moveF, .moveR, .moveR, .moveF, .moveF], [2, 2, 2, 2, 0, 1, 2, 2, 0, 1, 2, 2, 0, 1, 0, 0])),
  ([16, 22], ([.moveR, .moveR, .moveF, .moveF, .moveR, .moveF, .moveR, .moveF], [3, 1, 3, 2, 0, 2, 1, 1, 3, 2, 1, 1, 3, 2, 0, 0])),
  ([17, 0], ([.moveR, .moveR, .moveF, .moveF, .moveR, .moveF, .moveR, .moveF], [2, 3, 1, 3, 0, 3, 1, 2, 0, 1, 1, 2, 0, 1, 0, 0])),
  ([17, 1], ([.moveR, .moveR, .moveF, .moveF, .moveR, .moveF, .moveR, .moveF], [2, 3, 2, 3, 1, 3, 1, 2, 3, 1, 2, 2, 0, 1, 0, 0])),
  ([17, 2], ([.moveR, .moveR, .moveF, .moveF, .moveR, .moveF, .moveR, .moveF], [2, 3, 2, 3, 2, 3, 1, 2, 0, 1, 1, 2, 0, 1, 0, 0])),
  ([17, 3], ([.moveR, .moveF, .moveF, .moveR, .moveF, .moveR, .moveF, .moveR], [1, 3, 2, 2, 2, 1, 2, 1, 0, 1, 2, 1, 0, 1, 0, 0])),
  ([17, 4], ([.moveR, .moveR, .moveF, .moveF, .moveR, .moveF, .moveR, .moveF], [2, 3, 2, 2, 2, 1, 1, 1, 1, 1, 1, 1, 1, 2, 0, 0])),
  ([17, 5], ([.moveR, .moveR, .moveF, .moveR, .moveF, .moveR, .moveF, .moveF], [2, 3, 2, 2, 3, 2, 0, 2, 2, 0, 0, 2, 2, 0, 0, 0])),
  ([17, 6], ([.moveR, .moveR, .moveF, .moveF, .moveR, .moveF, .moveR, .moveF], [3, 3, 3, 3, 1, 3, 0, 2, 2, 1, 1, 2, 0, 1, 0, 0])),
  ([17, 7], ([.moveR, .moveR, .moveF, .moveF, .moveR, .moveF, .moveR, .moveF], [3, 3, 3, 3, 3, 3, 1, 2, 3, 1, 2, 2, 0, 1, 0, 0])),
  ([17, 8], ([.moveR, .moveR, .moveR, .moveR, .moveF, .moveF, .moveF, .moveF], [2, 3, 2, 1, 1, 1, 1, 1, 1, 1, 1, 1, 1, 1, 0, 0])),
  ([17, 9], ([.moveR, .moveR, .moveF, .moveR, .moveF, .moveR, .moveF, .moveF], [2, 3, 2, 3, 2, 0, 0, 2, 2, 0, 0, 2, 2, 0, 0, 0]))
]

def obstacles7x7_6 : List Row := [
  ([17, 10], ([.moveR, .moveR, .moveF, .moveF, .moveR, .moveR, .moveF, .moveF], [3, 3, 2, 3, 0, 2, 2, 2, 0, 1, 2, 2, 0, 1, 0, 0])),
  ([17, 11], ([.moveR, .moveR, .moveF, .moveR, .moveF, .moveR, .moveF, .moveF], [3, 3, 2, 2, 3, 2, 0, 2, 2, 0, 0, 2, 2, 0, 0, 0])),
  ([17, 12], ([.moveR, .moveR, .moveF, .moveR, .moveF, .moveR, .moveF, .moveF], [2, 3, 2, 3, 1, 3, 2, 2, 0, 0, 3, 2, 1, 0, 0, 0])),
  ([17, 13], ([.moveR, .moveR, .moveF, .moveF, .moveR, .moveF, .moveR, .moveF], [0, 3, 2, 3, 1, 3, 2, 2, 1, 1, 2, 2, 1, 1, 0, 0])),
  ([17, 14], ([.moveR, .moveR, .moveF, .moveF, .moveR, .moveF, .moveR, .moveF], [2, 3, 2, 1, 1, 1, 1, 1, 1, 1, 1, 1, 1, 2, 0, 0])),
  ([17, 15], ([.moveR, .moveR, .moveF, .moveR, .moveF, .moveR, .moveF, .moveF], [3, 3, 2, 3, 2, 0, 0, 2, 2, 0, 0, 2, 2, 0, 0, 0])),
  ([17, 16], ([.moveR, .moveR, .moveF, .moveF, .moveR, .moveF, .moveR, .moveF], [2, 3, 2, 3, 1, 3, 1, 0, 1, 2, 0, 0, 1, 2, 0, 0])),
  ([17, 18], ([.moveR, .moveR, .moveF, .moveF, .moveR, .moveF, .moveR, .moveF], [2, 1, 2, 3, 1, 3, 2, 1, 0, 2, 2, 2, 0, 1, 0, 0])),
  ([17, 19], ([.moveR, .moveR, .moveF, .moveF, .moveR, .moveF, .moveR, .moveF], [1, 1, 0, 2, 1, 1, 0, 2, 1, 1, 0, 2, 1, 1, 0, 0])),
  ([17, 20], ([.moveR, .moveR, .moveF, .moveF, .moveR, .moveF, .moveR, .moveF], [3, 2, 2, 1, 1, 1, 1, 1, 1, 1, 1, 1, 1, 2, 0, 0])),
  ([17, 21], ([.moveR, .moveR, .moveF, .moveF, .moveR, .moveR, .moveF, .moveF], [1, 2, 1, 2, 1, 1, 1, 2, 1, 1, 1, 2, 1, 1, 0, 0])),
  ([17, 22], ([.moveR, .moveR, .moveF, .moveF, .moveR, .moveF, .moveR, .moveF], [2, 1, 2, 2, 2, 2, 1, 0, 1, 2, 0, 0, 1, 2, 0, 0])),
  ([18, 0], ([.moveR, .moveR, .moveF, .moveF, .moveR, .moveF, .moveR, .moveF], [2, 1, 1, 3, 0, 3, 1, 3, 0, 2, 1, 1, 0, 2, 0, 0])),
  ([18, 1], ([.moveR, .moveR, .moveF, .moveF, .moveR, .moveF, .moveR, .moveF], [2, 1, 2, 3, 1, 3, 2, 3, 0, 2, 2, 1, 0, 2, 0, 0])),
  ([18, 2], ([.moveR, .moveR, .moveF, .moveF, .moveR, .moveF, .moveR, .moveF], [2, 1, 2, 3, 2, 3, 1, 3, 0, 2, 1, 1, 0, 2, 0, 0])),
  ([18, 3], ([.moveR, .moveF, .moveF, .moveR, .moveF, .moveR, .moveF, .moveR], [1, 1, 2, 3, 2, 3, 2, 3, 1, 2, 2, 1, 0, 2, 0, 0])),
  ([18, 4], ([.moveR, .moveR, .moveF, .moveF, .moveR, .moveF, .moveR, .moveF], [2, 1, 2, 3, 2, 3, 1, 1, 3, 1, 1, 1, 3, 1, 0, 0])),
  ([18, 5], ([.moveR, .moveR, .moveF, .moveF, .moveR, .moveF, .moveR, .moveF], [2, 1, 2, 3, 1, 3, 2, 0, 1, 3, 1, 1, 2, 2, 0, 0])),
  ([18, 6], ([.moveR, .moveR, .moveF, .moveF, .moveR, .moveF, .moveR, .moveF], [3, 1, 3, 3, 2, 3, 0, 3, 2, 1, 1, 1, 3, 2, 0, 0])),
  ([18, 7], ([.moveR, .moveR, .moveF, .moveF, .moveR, .moveF, .moveR, .moveF], [3, 1, 3, 3, 3, 3, 2, 2, 2, 0, 1, 2, 0, 2, 0, 0])),
  ([18, 8], ([.moveR, .moveR, .moveF, .moveF, .moveR, .moveF, .moveR, .moveF], [2, 1, 1, 3, 0, 3, 1, 3, 0, 2, 1, 1, 0, 2, 0, 0])),
  ([18, 9], ([.moveR, .moveR, .moveF, .moveF, .moveR, .moveR, .moveF, .moveF], [2, 1, 2, 3, 3, 1, 2, 2, 0, 1, 0, 2, 2, 1, 0, 0])),
  ([18, 10], ([.moveR, .moveR, .moveF, .moveF, .moveR, .moveF, .moveR, .moveF], [3, 1, 2, 3, 0, 3, 0, 3, 2, 1, 1, 1, 3, 2, 0, 0])),
  ([18, 11], ([.moveR, .moveR, .moveF, .moveF, .moveR, .moveF, .moveR, .moveF], [3, 1, 0, 3, 3, 3, 2, 3, 0, 2, 2, 1, 0, 2, 0, 0])),
  ([18, 12], ([.moveR, .moveR, .moveF, .moveF, .moveR, .moveF, .moveR, .moveF], [3, 1, 3, 3, 3, 3, 0, 3, 2, 1, 1, 1, 3, 2, 0, 0])),
  ([18, 13], ([.moveR, .moveR, .moveF, .moveF, .moveR, .moveF, .moveR, .moveF], [1, 1, 1, 3, 1, 3, 3, 1, 2, 1, 0, 1, 1, 2, 0, 0])),
  ([18, 14], ([.moveR, .moveR, .moveF, .moveF, .moveR, .moveF, .moveR, .moveF], [2, 1, 3, 1, 1, 2, 3, 1, 1, 2, 3, 1, 1, 2, 0, 0])),
  ([18, 15], ([.moveR, .moveR, .moveF, .moveR, .moveF, .moveR, .moveF, .moveF], [3, 1, 2, 3, 2, 0, 2, 1, 0, 1, 1, 2, 2, 1, 0, 0])),
  ([18, 16], ([.moveR, .moveR, .moveF, .moveF, .moveR, .moveF, .moveR, .moveF], [3, 1, 3, 3, 2, 3, 1, 1, 3, 1, 1, 1, 3, 1, 0, 0])),
  ([18, 17], ([.moveR, .moveR, .moveF, .moveF, .moveR, .moveF, .moveR, .moveF], [2, 1, 2, 3, 1, 3, 2, 1, 0, 2, 2, 2, 0, 1, 0, 0])),
  ([18, 19], ([.moveR, .moveR, .moveF, .moveF, .moveR, .moveF, .moveR, .moveF], [1, 1, 2, 1, 0, 1, 1, 1, 1, 0, 2, 0, 1, 1, 0, 0])),
  ([18, 20], ([.moveR, .moveR, .moveF, .moveF, .moveR, .moveF, .moveR, .moveF], [1, 2, 3, 1, 1, 2, 3, 1, 1, 2, 3, 1, 1, 2, 0, 0])),
  ([18, 21], ([.moveR, .moveR, .moveF, .moveF, .moveR, .moveR, .moveF, .moveF], [1, 2, 3, 2, 3, 1, 2, 2, 0, 1, 2, 2, 0, 1, 0, 0])),
  ([18, 22], ([.moveR, .moveR, .moveF, .moveF, .moveR, .moveF, .moveR, .moveF], [0, 1, 0, 2, 0, 2, 1, 1, 0, 2, 1, 1, 0, 2, 0, 0])),
  ([19, 0], ([.moveR, .moveR, .moveF, .moveF, .moveR, .moveF, .moveR, .moveF], [2, 1, 1, 1, 0, 1, 1, 0, 0, 1, 1, 0, 0, 1, 0, 0])),
  ([19, 1], ([.moveR, .moveR, .moveF, .moveF, .moveR, .moveF, .moveR, .moveF], [2, 1, 2, 2, 1, 1, 2, 2, 0, 1, 2, 2, 0, 1, 0, 0])),
  ([19, 2], ([.moveR, .moveR, .moveF, .moveF, .moveR, .moveF, .moveR, .moveF], [2, 1, 2, 1, 2, 1, 1, 0, 0, 1, 1, 0, 0, 1, 0, 0])),
  ([19, 3], ([.moveR, .moveF, .moveF, .moveR, .moveF, .moveR, .moveF, .moveR], [1, 1, 2, 1, 2, 1, 2, 1, 0, 1, 2, 1, 0, 1, 0, 0])),
  ([19, 4], ([.moveR, .moveR, .moveF, .moveF, .moveR, .moveF, .moveR, .moveF], [2, 1, 2, 1, 2, 1, 1, 0, 1, 2, 0, 1, 1, 2, 0, 0])),
  ([19, 5], ([.moveR, .moveR, .moveF, .moveR, .moveF, .moveR, .moveF, .moveF], [2, 1, 2, 1, 2, 0, 0, 2, 2, 0, 0, 2, 2, 0, 0, 0])),
  ([19, 6], ([.moveR, .moveR, .moveF, .moveF, .moveR, .moveF, .moveR, .moveF], [3, 1, 3, 1, 2, 1, 2, 0, 0, 1, 2, 0, 1, 0, 0, 0])),
  ([19, 7], ([.moveR, .moveR, .moveF, .moveF, .moveR, .moveF, .moveR, .moveF], [3, 1, 3, 2, 3, 1, 2, 2, 0, 1, 2, 2, 0, 1, 0, 0])),
  ([19, 8], ([.moveR, .moveR, .moveF, .moveF, .moveR, .moveF, .moveR, .moveF], [2, 1, 1, 1, 0, 1, 1, 0, 0, 1, 1, 0, 0, 1, 0, 0])),
  ([19, 9], ([.moveR, .moveR, .moveF, .moveF, .moveR, .moveF, .moveR, .moveF], [1, 1, 1, 1, 1, 1, 1, 0, 0, 1, 2, 0, 1, 0, 0, 0])),
  ([19, 10], ([.moveR, .moveR, .moveF, .moveF, .moveR, .moveF, .moveR, .moveF], [3, 1, 2, 1, 2, 1, 1, 0, 1, 2, 0, 1, 1, 2, 0, 0])),
  ([19, 11], ([.moveR, .moveR, .moveF, .moveF, .moveR, .moveF, .moveR, .moveF], [3, 1, 0, 2, 3, 1, 2, 2, 0, 1, 2, 2, 0, 1, 0, 0])),
  ([19, 12], ([.moveR, .moveR, .moveF, .moveF, .moveR, .moveF, .moveR, .moveF], [3, 1, 3, 1, 3, 1, 2, 0, 0, 1, 2, 0, 1, 0, 0, 0])),
  ([19, 13], ([.moveR, .moveR, .moveF, .moveF, .moveR, .moveF, .moveR, .moveF], [2, 1, 3, 1, 1, 1, 0, 0, 2, 0, 3, 0, 1, 1, 0, 0])),
  ([19, 14], ([.moveR, .moveR, .moveR, .moveR, .moveF, .moveF, .moveF, .moveF], [1, 1, 1, 1, 1, 1, 0, 0, 1, 1, 1, 1, 1, 1, 0, 0])),
  ([19, 15], ([.moveR, .moveR, .moveF, .moveF, .moveR, .moveF, .moveR, .moveF], [1, 1, 1, 1, 0, 1, 0, 0, 1, 1, 2, 0, 1, 0, 0, 0])),
  ([19, 16], ([.moveR, .moveR, .moveF, .moveF, .moveR, .moveF, .moveR, .moveF], [3, 1, 2, 1, 2, 1, 1, 0, 1, 2, 0, 1, 1, 2, 0, 0])),
  ([19, 17], ([.moveR, .moveR, .moveF, .moveF, .moveR, .moveF, .moveR, .moveF], [1, 1, 0, 2, 1, 1, 0, 2, 1, 1, 0, 2, 1, 1, 0, 0])),
  ([19, 18], ([.moveR, .moveR, .moveF, .moveF, .moveR, .moveF, .moveR, .moveF], [1, 1, 2, 1, 0, 1, 1, 1, 1, 0, 2, 0, 1, 1, 0, 0])),
  ([19, 20], ([.moveR, .moveF, .moveR, .moveR, .moveF, .moveR, .moveF, .moveF], [0, 2, 0, 1, 0, 2, 1, 1, 0, 2, 2, 1, 0, 2, 0, 0])),
  ([19, 21], ([.moveR, .moveF, .moveR, .moveR, .moveF, .moveR, .moveF, .moveF], [0, 2, 0, 2, 0, 1, 2, 2, 0, 1, 2, 2, 0, 1, 0, 0])),
  ([19, 22], ([.moveR, .moveR, .moveF, .moveF, .moveR, .moveF, .moveR, .moveF], [1, 1, 0, 2, 1, 2, 1, 1, 1, 2, 0, 1, 1, 2, 0, 0])),
  ([20, 0], ([.moveR, .moveR, .moveF, .moveF, .moveR, .moveF, .moveR, .moveF], [2, 2, 1, 1, 0, 2, 1, 1, 0, 2, 1, 1, 0, 2, 0, 0])),
  ([20, 1], ([.moveR, .moveR, .moveF, .moveF, .moveR, .moveF, .moveR, .moveF], [2, 2, 2, 1, 1, 2, 2, 1, 0, 2, 2, 1, 0, 2, 0, 0])),
  ([20, 2], ([.moveR, .moveR, .moveF, .moveF, .moveR, .moveF, .moveR, .moveF], [2, 2, 2, 1, 2, 2, 1, 1, 0, 2, 1, 1, 0, 2, 0, 0])),
  ([20, 3], ([.moveR, .moveF, .moveF, .moveR, .moveF, .moveR, .moveF, .moveR], [1, 2, 2, 1, 2, 2, 2, 1, 1, 2, 2, 1, 0, 2, 0, 0])),
  ([20, 4], ([.moveR, .moveR, .moveF, .moveF, .moveR, .moveF, .moveR, .moveF], [2, 2, 1, 1, 3, 2, 1, 1, 3, 2, 1, 1, 3, 2, 0, 0])),
  ([20, 5], ([.moveR, .moveR, .moveF, .moveF, .moveR, .moveR, .moveF, .moveF], [2, 2, 2, 0, 0, 2, 1, 2, 3, 1, 2, 2, 0, 1, 0, 0])),
  ([20, 6], ([.moveR, .moveR, .moveF, .moveF, .moveR, .moveF, .moveR, .moveF], [3, 2, 3, 1, 2, 2, 1, 1, 3, 2, 1, 1, 3, 2, 0, 0])),
  ([20, 7], ([.moveR, .moveR, .moveF, .moveF, .moveR, .moveF, .moveR, .moveF], [3, 2, 3, 1, 3, 2, 2, 1, 0, 2, 2, 1, 0, 2, 0, 0]))
]

def obstacles7x7_7 : List Row := [
  ([20, 8], ([.moveR, .moveR, .moveF, .moveF, .moveR, .moveF, .moveR, .moveF], [2, 2, 1, 1, 0, 2, 1, 1, 0, 2, 1, 1, 0, 2, 0, 0])),
  ([20, 9], ([.moveR, .moveR, .moveF, .moveF, .moveR, .moveF, .moveR, .moveF], [1, 2, 1, 1, 2, 2, 2, 1, 1, 1, 1, 1, 1, 2, 0, 0])),
  ([20, 10], ([.moveR, .moveR, .moveF, .moveF, .moveR, .moveF, .moveR, .moveF], [3, 2, 1, 1, 3, 2, 1, 1, 3, 2, 1, 1, 3, 2, 0, 0])),
  ([20, 11], ([.moveR, .moveR, .moveF, .moveF, .moveR, .moveF, .moveR, .moveF], [3, 2, 0, 1, 3, 2, 2, 1, 0, 2, 2, 1, 0, 2, 0, 0])),
  ([20, 12], ([.moveR, .moveR, .moveF, .moveF, .moveR, .moveF, .moveR, .moveF], [3, 2, 3, 1, 3, 2, 1, 1, 3, 2, 1, 1, 3, 2, 0, 0])),
  ([20, 13], ([.moveR, .moveR, .moveF, .moveF, .moveR, .moveF, .moveR, .moveF], [2, 2, 2, 1, 1, 2, 0, 1, 1, 2, 0, 1, 1, 2, 0, 0])),
  ([20, 14], ([.moveR, .moveR, .moveF, .moveF, .moveR, .moveF, .moveR, .moveF], [0, 2, 0, 1, 0, 2, 1, 1, 0, 2, 1, 1, 0, 2, 0, 0])),
  ([20, 15], ([.moveR, .moveR, .moveF, .moveF, .moveR, .moveF, .moveR, .moveF], [1, 2, 1, 1, 1, 2, 1, 1, 1, 2, 0, 1, 1, 2, 0, 0])),
  ([20, 16], ([.moveR, .moveR, .moveF, .moveF, .moveR, .moveF, .moveR, .moveF], [1, 2, 1, 1, 0, 2, 2, 1, 1, 2, 2, 1, 1, 2, 0, 0])),
  ([20, 17], ([.moveR, .moveR, .moveF, .moveF, .moveR, .moveF, .moveR, .moveF], [3, 2, 2, 1, 1, 1, 1, 1, 1, 1, 1, 1, 1, 2, 0, 0])),
  ([20, 18], ([.moveR, .moveR, .moveF, .moveF, .moveR, .moveF, .moveR, .moveF], [1, 2, 3, 1, 1, 2, 3, 1, 1, 2, 3, 1, 1, 2, 0, 0])),
  ([20, 19], ([.moveR, .moveF, .moveR, .moveR, .moveF, .moveR, .moveF, .moveF], [0, 2, 0, 1, 0, 2, 1, 1, 0, 2, 2, 1, 0, 2, 0, 0])),
  ([20, 21], ([.moveR, .moveR, .moveR, .moveR, .moveF, .moveF, .moveF, .moveF], [0, 2, 1, 1, 1, 1, 0, 0, 1, 1, 1, 1, 1, 1, 0, 0])),
  ([20, 22], ([.moveR, .moveR, .moveF, .moveF, .moveR, .moveF, .moveR, .moveF], [2, 1, 0, 2, 2, 1, 0, 2, 2, 1, 0, 2, 2, 1, 0, 0])),
  ([21, 0], ([.moveR, .moveR, .moveF, .moveF, .moveR, .moveR, .moveF, .moveF], [2, 2, 1, 2, 0, 1, 1, 2, 0, 1, 1, 2, 0, 1, 0, 0])),
  ([21, 1], ([.moveR, .moveR, .moveF, .moveF, .moveR, .moveR, .moveF, .moveF], [2, 2, 2, 2, 1, 1, 2, 2, 0, 1, 2, 2, 0, 1, 0, 0])),
  ([21, 2], ([.moveR, .moveR, .moveF, .moveF, .moveR, .moveR, .moveF, .moveF], [2, 2, 2, 2, 2, 1, 1, 2, 0, 1, 1, 2, 0, 1, 0, 0])),
  ([21, 3], ([.moveR, .moveF, .moveF, .moveR, .moveF, .moveR, .moveF, .moveR], [1, 2, 2, 2, 2, 1, 2, 2, 1, 1, 2, 2, 0, 1, 0, 0])),
  ([21, 4], ([.moveR, .moveR, .moveF, .moveF, .moveR, .moveR, .moveF, .moveF], [2, 2, 2, 2, 0, 1, 0, 2, 2, 1, 2, 2, 0, 1, 0, 0])),
  ([21, 5], ([.moveR, .moveR, .moveF, .moveR, .moveF, .moveR, .moveF, .moveF], [2, 2, 2, 1, 2, 0, 0, 2, 2, 0, 0, 2, 2, 0, 0, 0])),
  ([21, 6], ([.moveR, .moveR, .moveF, .moveF, .moveR, .moveR, .moveF, .moveF], [3, 2, 3, 2, 2, 1, 2, 2, 0, 1, 2, 2, 0, 1, 0, 0])),
  ([21, 7], ([.moveR, .moveR, .moveF, .moveF, .moveR, .moveR, .moveF, .moveF], [3, 2, 3, 2, 3, 1, 2, 2, 0, 1, 2, 2, 0, 1, 0, 0])),
  ([21, 8], ([.moveR, .moveR, .moveF, .moveF, .moveR, .moveR, .moveF, .moveF], [2, 2, 1, 2, 0, 1, 1, 2, 0, 1, 1, 2, 0, 1, 0, 0])),
  ([21, 9], ([.moveR, .moveR, .moveF, .moveR, .moveF, .moveR, .moveF, .moveF], [2, 2, 2, 1, 0, 2, 0, 2, 2, 0, 0, 2, 2, 0, 0, 0])),
  ([21, 10], ([.moveR, .moveR, .moveF, .moveF, .moveR, .moveR, .moveF, .moveF], [3, 2, 2, 2, 0, 1, 2, 2, 0, 1, 2, 2, 0, 1, 0, 0])),
  ([21, 11], ([.moveR, .moveR, .moveF, .moveF, .moveR, .moveR, .moveF, .moveF], [3, 2, 0, 2, 3, 1, 2, 2, 0, 1, 2, 2, 0, 1, 0, 0])),
  ([21, 12], ([.moveR, .moveR, .moveF, .moveF, .moveR, .moveR, .moveF, .moveF], [3, 2, 3, 2, 3, 1, 2, 2, 0, 1, 2, 2, 0, 1, 0, 0])),
  ([21, 13], ([.moveR, .moveR, .moveF, .moveF, .moveR, .moveR, .moveF, .moveF], [2, 2, 2, 2, 1, 1, 0, 2, 1, 1, 0, 2, 1, 1, 0, 0])),
  ([21, 14], ([.moveR, .moveR, .moveR, .moveR, .moveF, .moveF, .moveF, .moveF], [1, 2, 1, 1, 1, 1, 0, 0, 1, 1, 1, 1, 1, 1, 0, 0])),
  ([21, 15], ([.moveR, .moveR, .moveF, .moveR, .moveF, .moveR, .moveF, .moveF], [3, 2, 2, 1, 0, 2, 0, 2, 2, 0, 0, 2, 2, 0, 0, 0])),
  ([21, 16], ([.moveR, .moveR, .moveF, .moveF, .moveR, .moveR, .moveF, .moveF], [2, 2, 2, 2, 0, 1, 2, 2, 0, 1, 2, 2, 0, 1, 0, 0])),
  ([21, 17], ([.moveR, .moveR, .moveF, .moveF, .moveR, .moveR, .moveF, .moveF], [1, 2, 1, 2, 1, 1, 1, 2, 1, 1, 1, 2, 1, 1, 0, 0])),
  ([21, 18], ([.moveR, .moveR, .moveF, .moveF, .moveR, .moveR, .moveF, .moveF], [1, 2, 3, 2, 3, 1, 2, 2, 0, 1, 2, 2, 0, 1, 0, 0])),
  ([21, 19], ([.moveR, .moveF, .moveR, .moveR, .moveF, .moveR, .moveF, .moveF], [0, 2, 0, 2, 0, 1, 2, 2, 0, 1, 2, 2, 0, 1, 0, 0])),
  ([21, 20], ([.moveR, .moveR, .moveR, .moveR, .moveF, .moveF, .moveF, .moveF], [0, 2, 1, 1, 1, 1, 0, 0, 1, 1, 1, 1, 1, 1, 0, 0])),
  ([21, 22], ([.moveR, .moveR, .moveF, .moveR, .moveF, .moveR, .moveF, .moveF], [1, 1, 1, 2, 0, 1, 2, 2, 0, 1, 2, 2, 0, 2, 0, 0])),
  ([22, 0], ([.moveR, .moveR, .moveF, .moveF, .moveR, .moveF, .moveR, .moveF], [2, 1, 1, 2, 0, 2, 1, 1, 0, 2, 1, 1, 0, 2, 0, 0])),
  ([22, 1], ([.moveR, .moveR, .moveF, .moveF, .moveR, .moveF, .moveR, .moveF], [2, 1, 2, 2, 1, 2, 2, 1, 0, 2, 2, 1, 0, 2, 0, 0])),
  ([22, 2], ([.moveR, .moveR, .moveF, .moveF, .moveR, .moveF, .moveR, .moveF], [2, 1, 2, 2, 2, 2, 1, 1, 0, 2, 1, 1, 0, 2, 0, 0])),
  ([22, 3], ([.moveR, .moveF, .moveF, .moveR, .moveF, .moveR, .moveF, .moveR], [1, 1, 2, 2, 2, 2, 2, 1, 1, 2, 2, 1, 0, 2, 0, 0])),
  ([22, 4], ([.moveR, .moveR, .moveF, .moveF, .moveR, .moveF, .moveR, .moveF], [2, 1, 2, 2, 0, 2, 1, 1, 3, 2, 1, 1, 3, 2, 0, 0])),
  ([22, 5], ([.moveR, .moveR, .moveF, .moveF, .moveR, .moveR, .moveF, .moveF], [2, 1, 2, 0, 1, 3, 2, 2, 0, 1, 2, 2, 0, 1, 0, 0])),
  ([22, 6], ([.moveR, .moveR, .moveF, .moveF, .moveR, .moveF, .moveR, .moveF], [3, 1, 3, 2, 2, 2, 1, 1, 3, 2, 1, 1, 3, 2, 0, 0])),
  ([22, 7], ([.moveR, .moveR, .moveF, .moveF, .moveR, .moveF, .moveR, .moveF], [3, 1, 3, 2, 3, 2, 2, 1, 0, 2, 2, 1, 0, 2, 0, 0])),
  ([22, 8], ([.moveR, .moveR, .moveF, .moveF, .moveR, .moveF, .moveR, .moveF], [2, 1, 1, 2, 0, 2, 1, 1, 0, 2, 1, 1, 0, 2, 0, 0])),
  ([22, 9], ([.moveR, .moveR, .moveF, .moveF, .moveR, .moveR, .moveF, .moveF], [2, 1, 2, 0, 3, 1, 2, 2, 0, 1, 2, 2, 0, 1, 0, 0])),
  ([22, 10], ([.moveR, .moveR, .moveF, .moveF, .moveR, .moveF, .moveR, .moveF], [3, 1, 2, 2, 0, 2, 1, 1, 3, 2, 1, 1, 3, 2, 0, 0])),
  ([22, 11], ([.moveR, .moveR, .moveF, .moveF, .moveR, .moveF, .moveR, .moveF], [3, 1, 0, 2, 3, 2, 2, 1, 0, 2, 2, 1, 0, 2, 0, 0])),
  ([22, 12], ([.moveR, .moveR, .moveF, .moveF, .moveR, .moveF, .moveR, .moveF], [3, 1, 3, 2, 3, 2, 1, 1, 3, 2, 1, 1, 3, 2, 0, 0])),
  ([22, 13], ([.moveR, .moveR, .moveF, .moveF, .moveR, .moveF, .moveR, .moveF], [2, 1, 2, 2, 1, 2, 0, 1, 1, 2, 0, 1, 1, 2, 0, 0])),
  ([22, 14], ([.moveR, .moveR, .moveF, .moveF, .moveR, .moveF, .moveR, .moveF], [2, 1, 0, 2, 2, 1, 0, 2, 2, 1, 0, 2, 2, 1, 0, 0])),
  ([22, 15], ([.moveR, .moveR, .moveF, .moveR, .moveF, .moveR, .moveF, .moveF], [3, 1, 2, 2, 0, 1, 2, 2, 0, 1, 2, 2, 0, 2, 0, 0])),
  ([22, 16], ([.moveR, .moveR, .moveF, .moveF, .moveR, .moveF, .moveR, .moveF], [3, 1, 3, 2, 0, 2, 1, 1, 3, 2, 1, 1, 3, 2, 0, 0])),
  ([22, 17], ([.moveR, .moveR, .moveF, .moveF, .moveR, .moveF, .moveR, .moveF], [2, 1, 2, 2, 2, 2, 1, 0, 1, 2, 0, 0, 1, 2, 0, 0])),
  ([22, 18], ([.moveR, .moveR, .moveF, .moveF, .moveR, .moveF, .moveR, .moveF], [0, 1, 0, 2, 0, 2, 1, 1, 0, 2, 1, 1, 0, 2, 0, 0])),
  ([22, 19], ([.moveR, .moveR, .moveF, .moveF, .moveR, .moveF, .moveR, .moveF], [1, 1, 0, 2, 1, 2, 1, 1, 1, 2, 0, 1, 1, 2, 0, 0])),
  ([22, 20], ([.moveR, .moveR, .moveF, .moveF, .moveR, .moveF, .moveR, .moveF], [2, 1, 0, 2, 2, 1, 0, 2, 2, 1, 0, 2, 2, 1, 0, 0])),
  ([22, 21], ([.moveR, .moveR, .moveF, .moveR, .moveF, .moveR, .moveF, .moveF], [1, 1, 1, 2, 0, 1, 2, 2, 0, 1, 2, 2, 0, 2, 0, 0]))
]

def obstacles7x7 : List Row :=
  obstacles7x7_0 ++ obstacles7x7_1 ++ obstacles7x7_2 ++ obstacles7x7_3 ++ obstacles7x7_4 ++ obstacles7x7_5 ++ obstacles7x7_6 ++ obstacles7x7_7

end GV.Cert
