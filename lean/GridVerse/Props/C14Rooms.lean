/-
  C14 for the `rooms` layout (continuation of Props/C14.lean): the exit is reachable from the agent
  through the room passages.
-/
import GridVerse.Lemmas.RoomsConn
import GridVerse.Props.C13Rooms
namespace GV

/-- **C14 (`rooms`).**  For every shape with at least four rows, every layout and every split vector
with numpy's end points (`0` first, `n - 1` last) that the code's own check accepts (gaps of at least two:
`SplitsOK`), and every stream of draws:
the reset succeeds and the exit can be reached from the agent's cell with the shipped dynamics
`move_agent :: rest` (plain rest) under `reach_exit` termination. -/
theorem C14_rooms (sh : Shape) (lh lw : Int) (ys xs : List Int) (d : DrawSt)
    (hv : 4 ≤ sh.h ∧ 3 ≤ sh.w) (hl : 1 ≤ lh ∧ 1 ≤ lw)
    (sy : SplitsOK sh.h ys) (sx : SplitsOK sh.w xs)
    (rest : List TransAtom) (pr : PlainRest rest) :
    ∃ s d', resetRooms sh lh lw ys xs d = .ok (s, d') ∧
      Reaches (.moveAgent :: rest) (stopOf .reachExit) goalExit s := by
  obtain ⟨s, d', g0, ep, he, rf, ac, af, ane, _⟩ := rooms_reset sh lh lw ys xs d hv hl sy sx
  refine ⟨s, d', he, ?_⟩
  have conn := rf.floor_conn sy.toNat sx.toNat s.agent.pos ep ⟨ac, af⟩ ⟨rf.epIn, rf.epFloor⟩
  have hexit : (s.grid.at ep).isKind .exit = true := by rw [rf.at, if_pos rfl]; rfl
  exact conn_reaches rest pr s.grid rf.wf ep hexit s.agent.pos conn (Or.inl ane) s.agent.o s.agent.held

end GV
