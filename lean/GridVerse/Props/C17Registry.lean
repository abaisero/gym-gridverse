/-
  C17 — the registries a description's names are resolved against.

  A configuration names its components and the factory resolves each name in the matching registry;
  that resolution is only as stable as the registries.  These theorems say that a *refused*
  registration (name taken, signature not following the protocol) leaves the registry as it was, that
  an accepted one is found under exactly its name and displaces nothing, and — by induction over any
  history of attempts, accepted or refused, e.g. custom modules imported one after the other — that a
  name, once registered, resolves to the same function for ever (`C17_registered_names_stable`), so
  the shipped names mean the shipped functions whatever else is registered later.
-/
import GridVerse.Model.Registry
namespace GV

theorem Registry.lookup_append {F} (r r' : Registry F) (n : String) :
    Registry.lookup (r ++ r') n = (r.lookup n).or (Registry.lookup r' n) := by
  simp only [Registry.lookup, List.find?_append]
  cases r.find? (fun p => p.1 == n) <;> rfl

theorem Registry.lookup_singleton {F} (m : String) (f : F) (n : String) :
    Registry.lookup [(m, f)] n = if m == n then some f else none := by
  simp only [Registry.lookup, List.find?]
  cases m == n <;> rfl

theorem Registry.register_cases {F} (r : Registry F) (a : RegAttempt F) :
    ((r.register a).1 = r ∧ ∃ e, (r.register a).2 = some e) ∨
    (r.lookup (a.asName.getD a.fnName) = none ∧
      r.register a = (r ++ [(a.asName.getD a.fnName, a.fn)], none)) := by
  unfold Registry.register
  split
  · exact .inl ⟨rfl, _, rfl⟩
  · simp only
    split
    · exact .inl ⟨rfl, _, rfl⟩
    · rename_i h
      exact .inr ⟨by simpa using h, rfl⟩

/-- refused for a taken name: `ValueError`, the registry is the same list -/
theorem C17_register_taken_name {F} (r : Registry F) (a : RegAttempt F) (g : F) (hs : a.sigOK = true)
    (h : r.lookup (a.asName.getD a.fnName) = some g) : r.register a = (r, some .valueError) := by
  simp [Registry.register, hs, h]

/-- refused for its signature: `TypeError`, the registry is the same list (whatever the name) -/
theorem C17_register_bad_signature {F} (r : Registry F) (a : RegAttempt F) (hs : a.sigOK = false) :
    r.register a = (r, some .typeError) := by
  simp [Registry.register, hs]

/-- any refusal leaves the registry unchanged -/
theorem C17_register_refused_changes_nothing {F} (r : Registry F) (a : RegAttempt F) (e : RegErr)
    (h : (r.register a).2 = some e) : (r.register a).1 = r := by
  rcases r.register_cases a with ⟨h1, _⟩ | ⟨_, h2⟩
  · exact h1
  · rw [h2] at h; cases h

/-- accepted: found under exactly the chosen name, every other name resolves as before -/
theorem C17_register_accepted {F} (r : Registry F) (a : RegAttempt F) (h : (r.register a).2 = none) :
    (r.register a).1.lookup (a.asName.getD a.fnName) = some a.fn ∧
    ∀ n, n ≠ a.asName.getD a.fnName → (r.register a).1.lookup n = r.lookup n := by
  rcases r.register_cases a with ⟨_, e, he⟩ | ⟨hfree, h2⟩
  · rw [he] at h; cases h
  · rw [h2]
    refine ⟨?_, fun n hn => ?_⟩
    · show Registry.lookup (r ++ _) _ = _
      rw [Registry.lookup_append, hfree, Registry.lookup_singleton, beq_self_eq_true]; rfl
    · show Registry.lookup (r ++ _) _ = _
      have hne : (a.asName.getD a.fnName == n) = false := by simpa using fun hc => hn hc.symm
      rw [Registry.lookup_append, Registry.lookup_singleton, hne]
      exact Option.or_none

/-- one attempt never changes what a registered name resolves to -/
theorem C17_register_keeps {F} (r : Registry F) (a : RegAttempt F) (n : String) (f : F)
    (h : r.lookup n = some f) : (r.register a).1.lookup n = some f := by
  rcases r.register_cases a with ⟨h1, _⟩ | ⟨_, h2⟩
  · rw [h1]; exact h
  · rw [h2, Registry.lookup_append, h]; rfl

/-- for every history of registration attempts — accepted or refused, under the function's own name
or another — a name that is registered resolves to the same function afterwards -/
theorem C17_registered_names_stable {F} (r : Registry F) (as : List (RegAttempt F)) (n : String) (f : F)
    (h : r.lookup n = some f) : (r.registerAll as).lookup n = some f := by
  induction as generalizing r with
  | nil => exact h
  | cons a as ih => exact ih _ (C17_register_keeps r a n f h)

example :
    let r : Registry Nat := [("reach_exit", 1), ("bump_into_wall", 2)]
    let r' := r.registerAll [⟨7, "reach_exit", none, true⟩, ⟨8, "mine", some "bump_into_wall", true⟩,
      ⟨9, "mine", none, false⟩, ⟨10, "mine", none, true⟩, ⟨11, "other", some "mine", true⟩]
    r' = [("reach_exit", 1), ("bump_into_wall", 2), ("mine", 10)] ∧
    (r.register ⟨7, "reach_exit", none, true⟩).2 = some .valueError := by decide +kernel

end GV
