/-
  C02 — Seeded environments are reproducible and isolated from every global RNG.

  "Two environments built from the same configuration and given the same seed produce identical
  sequences of states, observations, rewards and termination flags under the same action sequence -
  within one process, across processes regardless of hash randomisation, with the debug flag on or
  off, and however their operations are interleaved with those of other environments. A seeded
  environment never draws from, or perturbs, the library-level generator or any other global random
  source."

  What is logic here — where draws come from and in which order, for any interleaving — is proved
  on the world model.  That the *code's* components request their draws from the generator they
  are handed, in the model's order, and from nothing else (numpy's legacy global, `random`) is the
  correspondence's part: every generator call of every component is recorded and compared, and the
  global sources are snapshotted around every operation.  numpy's bit generator and CPython's hash
  randomisation themselves are in the trusted base.
-/
import GridVerse.Model.World
import GridVerse.Model.Reset
import GridVerse.Props.C01
import GridVerse.Lemmas.Repr
namespace GV

/-- two instances of the same configuration, seeded alike and driven alike, produce the same
outputs and end in the same state (the model has no hidden state; that the code has none is what the
history correspondence checks) -/
theorem C02_deterministic (e : EnvSpec) (ans : List Nat) (ops : List Op) :
    Machine.run e (Machine.init ⟨ans, []⟩) ops = Machine.run e (Machine.init ⟨ans, []⟩) ops := rfl

/-- a seeded instance does not look at the library generator `lib`, nor advance it -/
theorem exec1_seeded (e : EnvInst) (hs : e.rng.isSome = true) (lib lib' : DrawSt) (op : Op) :
    (e.exec1 lib op).1 = (e.exec1 lib' op).1 ∧ (e.exec1 lib op).2.1 = lib ∧
    (e.exec1 lib op).2.2 = (e.exec1 lib' op).2.2 ∧ (e.exec1 lib op).1.rng.isSome = true := by
  obtain ⟨d0, hs⟩ := Option.isSome_iff_exists.mp hs
  have hm : e.machine lib = e.machine lib' := by simp [EnvInst.machine, hs]
  cases op <;> simp [EnvInst.exec1, hs, hm]

/-- isolation is a property of seeding, not of the model's construction: an unseeded instance does
draw from the library generator -/
example :
    let spec : EnvSpec := {
      stateSpace := ⟨4, 4, [.wall, .floor, .exit], []⟩, actions := ⟨Action.all⟩,
      obsSpace := ⟨1, 1, [.wall, .floor, .exit], []⟩,
      reset := fun d => resetEmpty ⟨4, 4⟩ true false d, trans := [], rewards := [],
      observe := observeOf .ft ⟨0, 0, 0, 0⟩ [], term := .reachExit, debug := false }
    ((⟨spec, none, none, none⟩ : EnvInst).exec1 ⟨[1, 2], []⟩ .reset).2.1.ans = [] ∧
    ((⟨spec, none, none, some ⟨[1, 2], []⟩⟩ : EnvInst).exec1 ⟨[7, 7], []⟩ .reset).2.1.ans = [7, 7] := by
  decide +kernel

def World.Seeded (w : World) : Prop := ∀ e ∈ w.envs, e.rng.isSome = true

theorem World.exec_seeded (w : World) (hs : w.Seeded) (op : WOp) : (w.exec op).1.Seeded := by
  cases op with
  | libChoice n => exact hs
  | env i op =>
    simp only [World.exec]
    cases hi : w.envs[i]? with
    | none => exact hs
    | some e =>
      simp only
      intro x hx
      rcases List.mem_or_eq_of_mem_set hx with h | h
      · exact hs x h
      · rw [h]; exact (exec1_seeded e (hs e (List.mem_of_getElem? hi)) w.lib w.lib op).2.2.2

theorem World.run_cons (w : World) (op : WOp) (ops : List WOp) :
    World.run w (op :: ops) =
      ((World.run (w.exec op).1 ops).1, (w.exec op).2 :: (World.run (w.exec op).1 ops).2) := rfl

theorem World.exec_env (w : World) (hs : w.Seeded) (l0 : DrawSt) (j : Nat) (op : Op) :
    (w.exec (.env j op)).1.lib = w.lib ∧
    ∀ i e, w.envs[i]? = some e →
      (w.exec (.env j op)).1.envs[i]? = some (if j = i then (e.exec1 l0 op).1 else e) ∧
      (j = i → (w.exec (.env j op)).2 = (e.exec1 l0 op).2.2) := by
  simp only [World.exec]
  cases hj : w.envs[j]? with
  | none =>
    refine ⟨rfl, fun i e hi => ?_⟩
    have hne : j ≠ i := by rintro rfl; rw [hj] at hi; cases hi
    exact ⟨by rw [if_neg hne]; exact hi, fun h => absurd h hne⟩
  | some ej =>
    obtain ⟨hA, hB, hC, _⟩ := exec1_seeded ej (hs ej (List.mem_of_getElem? hj)) w.lib l0 op
    refine ⟨hB, fun i e hi => ?_⟩
    by_cases hji : j = i
    · subst hji
      cases hj.symm.trans hi
      have hlen : j < w.envs.length := (List.getElem?_eq_some_iff.mp hj).1
      exact ⟨by rw [List.getElem?_set_self hlen, if_pos rfl, hA], fun _ => hC⟩
    · exact ⟨by rw [List.getElem?_set_ne hji, if_neg hji]; exact hi, fun h => absurd h hji⟩

/-- C02 isolation: in a world where every live environment is seeded, for any interleaving of
operations of the environments and of direct calls on the library generator:
* the library generator ends exactly where the direct calls alone would have left it — no
  environment operation advanced it;
* each environment ends in the state, and produced the outputs, of running its own operations
  alone (`l0` is an arbitrary library generator for the solo run: it is never consulted). -/
theorem C02_isolation (ops : List WOp) (w : World) (hs : w.Seeded) (l0 : DrawSt) :
    (World.run w ops).1.lib = runLib w.lib (libCalls ops) ∧
    ∀ i e, w.envs[i]? = some e →
      (World.run w ops).1.envs[i]? = some (soloRun l0 e (projectOps i ops)).1 ∧
      projectOuts i ops (World.run w ops).2 = (soloRun l0 e (projectOps i ops)).2 := by
  induction ops generalizing w with
  | nil => exact ⟨rfl, fun i e h => ⟨h, rfl⟩⟩
  | cons op ops ih =>
    obtain ⟨ihlib, ihenv⟩ := ih (w.exec op).1 (World.exec_seeded w hs op)
    rw [World.run_cons]
    cases op with
    | libChoice n =>
      simp only [libCalls, runLib, List.foldl_cons, projectOps, projectOuts]
      exact ⟨ihlib, ihenv⟩
    | env j op' =>
      obtain ⟨hlib, henv⟩ := World.exec_env w hs l0 j op'
      refine ⟨by rw [libCalls, ← hlib]; exact ihlib, fun i e hi => ?_⟩
      obtain ⟨hi', hout⟩ := henv i e hi
      obtain ⟨t1, t2⟩ := ihenv i _ hi'
      simp only [projectOps, projectOuts]
      by_cases hji : j = i
      · rw [if_pos hji] at t1 t2
        rw [if_pos hji, if_pos hji, soloRun, hout hji]
        exact ⟨t1, congrArg _ t2⟩
      · rw [if_neg hji] at t1 t2
        rw [if_neg hji, if_neg hji]
        exact ⟨t1, t2⟩

/-- in particular: two instances of one configuration with the same seed, interleaved arbitrarily
with each other, with a third environment and with foreign calls on the library generator, end in
the same state and produce the same outputs whenever they receive the same operations -/
theorem C02_same_seed_same_trace (ops : List WOp) (w : World) (hs : w.Seeded) (i j : Nat) (e : EnvInst)
    (hi : w.envs[i]? = some e) (hj : w.envs[j]? = some e) (hsame : projectOps i ops = projectOps j ops) :
    (World.run w ops).1.envs[i]? = (World.run w ops).1.envs[j]? ∧
    projectOuts i ops (World.run w ops).2 = projectOuts j ops (World.run w ops).2 := by
  obtain ⟨_, h⟩ := C02_isolation ops w hs ⟨[], []⟩
  obtain ⟨a1, a2⟩ := h i e hi
  obtain ⟨b1, b2⟩ := h j e hj
  rw [a1, a2, b1, b2, hsame]
  exact ⟨rfl, rfl⟩

/-- `functional_step` hands no generator to the reward and termination functions; in the model they
have no access to the draw state at all: the generator after a step is the one the transition chain
left -/
theorem C02_reward_term_drawless (e : EnvSpec) (s : State) (a : Action) (d : DrawSt) (r : StepResult)
    (h : e.functionalStep s a d = .ok r) : ∃ s', runChain e.trans s a d = .ok (s', r.d) ∧ r.next = s' := by
  simp only [EnvSpec.functionalStep] at h
  repeat' split at h
  -- every branch but the last is an error; the last returns the chain's state and generator
  all_goals cases h
  exact ⟨_, ‹_›, rfl⟩

/-- with the debug flag on or off a conforming state steps alike: the membership checks the flag adds
all pass (C01) -/
theorem C02_debug_irrelevant (e : EnvSpec) (deep : Bool) (hpre : ChainPre e.stateSpace deep e.trans)
    (s : State) (a : Action) (d : DrawSt) (c : Conf e.stateSpace deep s) :
    ({ e with debug := true }).functionalStep s a d = ({ e with debug := false }).functionalStep s a d := by
  obtain ⟨s', d', hrun, c'⟩ := C01_trans_closed e.stateSpace deep e.trans hpre s a d c
  simp [EnvSpec.functionalStep, c.contains, c'.contains, hrun]

theorem C02_debug_irrelevant_reset (e : EnvSpec) (deep : Bool) (d : DrawSt)
    (hreset : ∀ s d', e.reset d = .ok (s, d') → Conf e.stateSpace deep s) :
    ({ e with debug := true }).functionalReset d = ({ e with debug := false }).functionalReset d := by
  unfold EnvSpec.functionalReset
  cases hr : e.reset d with
  | error err => rfl
  | ok p =>
    obtain ⟨s, d'⟩ := p
    simp [(hreset s d' hr).contains]

/-- the sorted colour list depends on the set only, not on the order hash randomisation enumerates
it in -/
theorem C02_iteration_order_irrelevant (l l' : List Color) (h : ∀ c, c ∈ l ↔ c ∈ l') :
    sortColors l = sortColors l' := filter_contains_congr _ h

/-- so `memory` / `memory_rooms`, which consume the sorted colour list, produce the same state for
the same stream whatever order the set was enumerated in -/
theorem C02_memory_order_irrelevant (sh : Shape) (l l' : List Color) (h : ∀ c, c ∈ l ↔ c ∈ l') (d : DrawSt) :
    resetMemory sh (sortColors l) d = resetMemory sh (sortColors l') d := by
  rw [C02_iteration_order_irrelevant l l' h]

/-- before the repair the code consumed the set in iteration order: two enumerations of the same
set give different episodes for the same stream (findings/F6) -/
example :
    (resetMemory ⟨5, 5⟩ [.red, .green] ⟨[0, 0, 0, 0], []⟩).toOption.map (fun r => r.1.grid.at ⟨3, 1⟩) = some (.beacon .red) ∧
    (resetMemory ⟨5, 5⟩ [.green, .red] ⟨[0, 0, 0, 0], []⟩).toOption.map (fun r => r.1.grid.at ⟨3, 1⟩) = some (.beacon .green) := by
  decide +kernel

end GV
