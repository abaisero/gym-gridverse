/-
  C17 — Configurations build exactly the environment they describe, or are rejected.

  "Every shipped YAML configuration - whose packaged copy is identical and which every registered
  gym id points to - validates and builds an environment that behaves exactly like the one
  assembled by hand from the named components with the given parameters (parameters a component
  does not accept being ignored); building leaves the input data unchanged and is repeatable, and a
  component obtained by name with parameters behaves like the underlying function called with those
  parameters. Unknown component names, missing required parameters and malformed shapes, colours or
  actions are rejected with a schema or value error rather than building a different environment."

  The theorems about `Gen.*` are re-proved on every run against the data regenerated from /repo
  (registries through `inspect.signature`, the 21 YAML files, `STRING_TO_YAML_FILE`, a byte
  comparison of the packaged copies).  Behavioural equality with the hand-assembled environment is
  the correspondence's part (same histories from the real factory, from hand assembly, and from the
  model).
-/
import GridVerse.Agree.Registry
import GridVerse.Lemmas.Repr
namespace GV

/-- success: the name is registered, every required keyword was given, and exactly the given
keywords the function accepts are bound (the others are ignored), in the given order -/
theorem C17_factory_ok (reg : List Sig) (name : String) (kw : List String) (sig : Sig) (sel : List String)
    (h : factoryCheck reg name kw = .ok (sig, sel)) :
    sig ∈ reg ∧ sig.name = name ∧ (∀ k ∈ sig.required, k ∈ kw) ∧
    sel = kw.filter (fun k => (sig.required ++ sig.optional).contains k) ∧
    (∀ k, k ∈ sel ↔ k ∈ kw ∧ (k ∈ sig.required ∨ k ∈ sig.optional)) := by
  unfold factoryCheck at h
  split at h
  · cases h
  rename_i s hf
  split at h
  · rename_i hall
    obtain ⟨rfl, rfl⟩ := Prod.mk.inj (Except.ok.inj h)
    refine ⟨List.mem_of_find?_eq_some hf, by simpa using List.find?_some hf, ?_, rfl, ?_⟩
    · intro k hk; simpa using List.all_eq_true.mp hall k hk
    · intro k; simp [List.mem_filter]
  · cases h

/-- an unknown name is a `ValueError` -/
theorem C17_factory_unknown (reg : List Sig) (name : String) (kw : List String)
    (h : ∀ s ∈ reg, s.name ≠ name) : factoryCheck reg name kw = .error .valueError := by
  unfold factoryCheck
  have : reg.find? (fun s => s.name == name) = none := by
    rw [List.find?_eq_none]
    intro s hs
    simpa using h s hs
  rw [this]

/-- a missing required keyword is a `ValueError` (for the first registered function of that name) -/
theorem C17_factory_missing (reg : List Sig) (name : String) (kw : List String) (sig : Sig)
    (hf : reg.find? (fun s => s.name == name) = some sig) (k : String) (hk : k ∈ sig.required)
    (hmiss : k ∉ kw) : factoryCheck reg name kw = .error .valueError := by
  have : sig.required.all kw.contains = false := List.all_eq_false.mpr ⟨k, hk, by simpa using hmiss⟩
  simp [factoryCheck, hf, this]

theorem C17_schema_first (r : Regs) (y : Yaml) (h : okEnv r y = false) :
    buildDesc r y = .error .schemaError := by
  simp [buildDesc, h]

/-- a malformed `shape` / `layout` (not a pair of positive integers) or colour list inside any
function entry fails the schema -/
theorem C17_bad_reserved_value (r : Regs) (fuel : Nat) (m : List (String × Yaml)) (k : String) (v : Yaml)
    (hmem : (k, v) ∈ m)
    (hbad : (k = "shape" ∧ okPosIntPair v = false) ∨ (k = "layout" ∧ okPosIntPair v = false) ∨
            (k = "colors" ∧ okColors r v = false)) :
    okFunction r (fuel + 1) (.map m) = false := by
  simp only [okFunction, Bool.and_eq_false_iff]
  right
  rw [List.all_eq_false]
  refine ⟨(k, v), hmem, ?_⟩
  rcases hbad with ⟨rfl, h⟩ | ⟨rfl, h⟩ | ⟨rfl, h⟩ <;> simp [h]

theorem mapM_asStr (names : List String) : (names.map Yaml.str).mapM Yaml.asStr? = some names := by
  induction names with
  | nil => rfl
  | cons a as ih => simp only [List.map_cons, List.mapM_cons, Yaml.asStr?, ih]; rfl

theorem okNameList_false (p : String → Bool) (names : List String)
    (h : names = [] ∨ (∃ n ∈ names, p n = false) ∨ names.eraseDups.length ≠ names.length) :
    okNameList p (.list (names.map Yaml.str)) = false := by
  simp only [okNameList, mapM_asStr names]
  rcases h with rfl | ⟨n, hn, hbad⟩ | hd
  · simp
  · have : names.all p = false := List.all_eq_false.mpr ⟨n, hn, by simp [hbad]⟩
    simp [this]
  · have : allDistinct names = false := by simp [allDistinct, hd]
    simp [this]

/-- an action name that is not an action, a duplicate, or an empty list is not an action space -/
theorem C17_bad_actions (r : Regs) (names : List String)
    (h : names = [] ∨ (∃ n ∈ names, n ∉ r.actions) ∨ names.eraseDups.length ≠ names.length) :
    okActions r (.list (names.map Yaml.str)) = false :=
  okNameList_false _ names (by simpa using h)

/-- same for colours -/
theorem C17_bad_colors (r : Regs) (names : List String)
    (h : names = [] ∨ (∃ n ∈ names, n ∉ r.colors) ∨ names.eraseDups.length ≠ names.length) :
    okColors r (.list (names.map Yaml.str)) = false :=
  okNameList_false _ names (by simpa using h)

/-- `_positive_int_pair()` accepts exactly the pairs of positive integers -/
theorem C17_shape_iff (a b : Int) : okPosIntPair (.list [.int a, .int b]) = true ↔ 0 < a ∧ 0 < b := by
  simp [okPosIntPair, Yaml.asPyInt?]

theorem filter_sel_eq {β} (params : List (String × β)) (acc : String → Bool) :
    params.filter (fun kv => ((params.map (·.1)).filter acc).contains kv.1) =
      params.filter (fun kv => acc kv.1) :=
  List.filter_congr fun kv hkv => by
    rw [Bool.eq_iff_iff, List.contains_iff_mem, List.mem_filter]
    exact and_iff_right (List.mem_map_of_mem hkv)

/-- a plain component (no nested components, no reserved conversions): the function registered
under the given name, bound to exactly the accepted keywords among the given ones -/
theorem C17_build_plain (r : Regs) (fuel : Nat) (kind : RegKind) (name : String) (params : List (String × Yaml))
    (hplain : ∀ kv ∈ params, kv.1 ∉ ["name", "transition_functions", "reward_functions", "terminating_functions",
      "reward_function", "distance_function", "visibility_function", "area", "object_type", "colors"])
    (hcustom : isCustom name = false) (c : Comp)
    (h : buildComp r (fuel + 1) kind (.map (("name", .str name) :: params)) = .ok c) :
    ∃ sig, factoryCheck (r.of kind) name (params.map (·.1)) = .ok (sig, c.keys) ∧
      (match c with | .mk n kws subs => n = name ∧ subs = [] ∧
        kws = params.filter (fun kv => (sig.required ++ sig.optional).contains kv.1)) := by
  have hlk : ∀ key, key ∈ ["transition_functions", "reward_functions", "terminating_functions",
      "reward_function", "distance_function", "visibility_function", "area", "object_type", "colors"] →
      params.lookup key = none := fun key hkey =>
    List.lookup_eq_none_iff.mpr fun kv hkv => bne_iff_ne.mpr fun he => hplain kv hkv (he ▸ List.mem_cons_of_mem _ hkey)
  have hrest : (("name", Yaml.str name) :: params).filter (fun kv => kv.1 != "name") = params := by
    rw [List.filter_cons_of_neg (by simp)]
    exact List.filter_eq_self.mpr fun kv hkv => bne_iff_ne.mpr fun he => hplain kv hkv (he ▸ List.mem_cons_self ..)
  -- in one call, so that each match is decided before its branches are visited
  simp only [buildComp, List.lookup_cons, beq_self_eq_true, hrest,
    hlk "transition_functions" (by simp), hlk "reward_functions" (by simp),
    hlk "terminating_functions" (by simp), hlk "reward_function" (by simp),
    hlk "distance_function" (by simp), hlk "visibility_function" (by simp), hlk "area" (by simp),
    hlk "object_type" (by simp), hlk "colors" (by simp), hcustom,
    Bool.not_true, Bool.false_eq_true, if_false, ite_self, List.append_nil] at h
  split at h
  · cases h
  · rename_i sig sel hfc
    obtain rfl := Except.ok.inj h
    obtain ⟨_, _, _, rfl, _⟩ := C17_factory_ok _ _ _ _ _ hfc
    refine ⟨sig, ?_, rfl, rfl, filter_sel_eq params _⟩
    rw [hfc, Comp.keys, filter_sel_eq, List.filter_map]
    rfl

/-- **values are carried verbatim.**  In a plain component every accepted keyword that was given is
bound to exactly the value given for it — whatever the value (`0`, `0.0`, `false`, `null` are values,
not "left out") — and nothing else is bound. -/
theorem C17_values_verbatim (r : Regs) (fuel : Nat) (kind : RegKind) (name : String) (params : List (String × Yaml))
    (hplain : ∀ kv ∈ params, kv.1 ∉ ["name", "transition_functions", "reward_functions", "terminating_functions",
      "reward_function", "distance_function", "visibility_function", "area", "object_type", "colors"])
    (hcustom : isCustom name = false) (n : String) (kws : List (String × Yaml)) (subs : List Comp)
    (h : buildComp r (fuel + 1) kind (.map (("name", .str name) :: params)) = .ok (.mk n kws subs)) :
    ∃ sig, sig ∈ r.of kind ∧ sig.name = name ∧
      ∀ k v, (k, v) ∈ kws ↔ ((k, v) ∈ params ∧ (k ∈ sig.required ∨ k ∈ sig.optional)) := by
  obtain ⟨sig, hfc, hc⟩ := C17_build_plain r fuel kind name params hplain hcustom _ h
  obtain ⟨hmem, hname, _⟩ := C17_factory_ok _ _ _ _ _ hfc
  obtain ⟨_, _, hk⟩ := hc
  refine ⟨sig, hmem, hname, ?_⟩
  intro k v
  rw [hk]
  simp [List.mem_filter]

/-- e.g. a living reward of `0.0` is what gets bound: a falsy value is a value, not "left out" -/
example : (buildComp Gen.regs 3 .reward (.map [("name", .str "living_reward"), ("reward", .float 0 1)])).toOption.map
    (fun c => match c with | .mk _ kws _ => kws) = some [("reward", .float 0 1)] := by rfl

/-- the three reserved keys that hold a list of nested components, each with the registry its
entries are resolved in -/
def groupKeys : List (RegKind × String) :=
  [(.transition, "transition_functions"), (.reward, "reward_functions"), (.terminating, "terminating_functions")]

/-- **a group keeps every listed entry.**  A component `name` whose only keyword is one of the three
group keys is built entry by entry, in the order written: it has exactly the sub-components that the
entries build on their own — two entries naming the same function with other parameters stay two. -/
theorem buildComp_group {r : Regs} {fuel : Nat} {kind : RegKind} {name key : String} {l : List Yaml} {c : Comp}
    (hk : (kind, key) ∈ groupKeys) (hcustom : isCustom name = false)
    (hsig : (r.of kind).find? (fun s => s.name == name) = some ⟨name, [key], []⟩)
    (h : buildComp r (fuel + 1) kind (.map [("name", .str name), (key, .list l)]) = .ok c) :
    ∃ subs, l.mapM (buildComp r fuel kind) = .ok subs ∧ c = .mk name [(key, .list l)] subs := by
  have hfc : factoryCheck (r.of kind) name [key] = .ok (⟨name, [key], []⟩, [key]) := by
    simp [factoryCheck, hsig]
  simp only [groupKeys, List.mem_cons, Prod.mk.injEq, List.not_mem_nil, or_false] at hk
  rcases hk with ⟨rfl, rfl⟩ | ⟨rfl, rfl⟩ | ⟨rfl, rfl⟩
  all_goals
    -- the literal key decides all nine reserved lookups; every fact goes into the one call, so that each
    -- match is decided before its branches are visited
    cases hm : List.mapM (buildComp r fuel _) l with
    | error e =>
      simp only [buildComp, List.lookup, List.filter, beq_self_eq_true, bne_self_eq_false, String.reduceBEq,
        String.reduceBNe, hm, reduceCtorEq] at h
    | ok s2 =>
      simp only [buildComp, List.lookup, List.filter, beq_self_eq_true, bne_self_eq_false, String.reduceBEq,
        String.reduceBNe, hm, Bool.not_true, Bool.false_eq_true, if_false, hcustom, List.map, hfc] at h
      simp +decide at h
      subst h
      exact ⟨s2, rfl, by simp⟩

theorem C17_group_keeps_every_entry (r : Regs) (fuel : Nat) (l : List Yaml) (c : Comp)
    (hsig : r.reward.find? (fun s => s.name == "reduce_sum") = some ⟨"reduce_sum", ["reward_functions"], []⟩)
    (h : buildComp r (fuel + 1) .reward (.map [("name", .str "reduce_sum"), ("reward_functions", .list l)]) = .ok c) :
    ∃ subs, l.mapM (buildComp r fuel .reward) = .ok subs ∧
      (match c with | .mk n _ ss => n = "reduce_sum" ∧ ss = subs) := by
  obtain ⟨subs, hm, rfl⟩ := buildComp_group (by simp [groupKeys]) (by decide +kernel) hsig h
  exact ⟨subs, hm, rfl, rfl⟩

theorem C17_group_entrywise (r : Regs) (fuel : Nat) (l : List Yaml) (n : String) (kws : List (String × Yaml)) (subs : List Comp)
    (hsig : r.reward.find? (fun s => s.name == "reduce_sum") = some ⟨"reduce_sum", ["reward_functions"], []⟩)
    (h : buildComp r (fuel + 1) .reward (.map [("name", .str "reduce_sum"), ("reward_functions", .list l)]) = .ok (.mk n kws subs)) :
    subs.length = l.length ∧ ∀ (i : Nat) (hi : i < l.length) (hi' : i < subs.length),
      buildComp r fuel .reward l[i] = .ok subs[i] := by
  obtain ⟨ss, hm, hc⟩ := C17_group_keeps_every_entry r fuel l _ hsig h
  obtain ⟨_, rfl⟩ := hc
  exact (mapE_ok_iff _ l subs).mp ((mapE_eq_mapM _ l).trans hm)

/-- the same for the chained transition functions (the order written is the order applied) and for the
tests of a `reduce_any` -/
theorem C17_chain_keeps_every_entry (r : Regs) (fuel : Nat) (l : List Yaml) (c : Comp)
    (hsig : r.transition.find? (fun s => s.name == "chain") = some ⟨"chain", ["transition_functions"], []⟩)
    (h : buildComp r (fuel + 1) .transition (.map [("name", .str "chain"), ("transition_functions", .list l)]) = .ok c) :
    ∃ subs, l.mapM (buildComp r fuel .transition) = .ok subs ∧
      (match c with | .mk n _ ss => n = "chain" ∧ ss = subs) := by
  obtain ⟨subs, hm, rfl⟩ := buildComp_group (by simp [groupKeys]) (by decide +kernel) hsig h
  exact ⟨subs, hm, rfl, rfl⟩

theorem C17_reduce_any_keeps_every_entry (r : Regs) (fuel : Nat) (l : List Yaml) (c : Comp)
    (hsig : r.terminating.find? (fun s => s.name == "reduce_any") = some ⟨"reduce_any", ["terminating_functions"], []⟩)
    (h : buildComp r (fuel + 1) .terminating (.map [("name", .str "reduce_any"), ("terminating_functions", .list l)]) = .ok c) :
    ∃ subs, l.mapM (buildComp r fuel .terminating) = .ok subs ∧
      (match c with | .mk n _ ss => n = "reduce_any" ∧ ss = subs) := by
  obtain ⟨subs, hm, rfl⟩ := buildComp_group (by simp [groupKeys]) (by decide +kernel) hsig h
  exact ⟨subs, hm, rfl, rfl⟩

example : Gen.regs.transition.find? (fun s => s.name == "chain") = some ⟨"chain", ["transition_functions"], []⟩ ∧
    Gen.regs.terminating.find? (fun s => s.name == "reduce_any") = some ⟨"reduce_any", ["terminating_functions"], []⟩ := ⟨rfl, rfl⟩

/-- the regenerated reward registry has that entry -/
example : Gen.regs.reward.find? (fun s => s.name == "reduce_sum") = some ⟨"reduce_sum", ["reward_functions"], []⟩ := rfl

/-- every shipped configuration uses only registered built-in components with all required
parameters given (no custom module) -/
theorem C17_shipped_components :
    Gen.shippedConfigs.all (fun c =>
      match buildDesc Gen.regs c.2 with
      | .ok d => (Gen.regs.reset.any fun s => match d.reset with | .mk n _ _ => s.name == n) &&
                 (match d.transition with | .mk n _ subs => n == "chain" && !subs.isEmpty) &&
                 (match d.reward with | .mk n _ subs => n == "reduce_sum" && !subs.isEmpty)
      | .error _ => false) = true := by decide +kernel

/-- every shipped configuration validates and builds (statically) -/
theorem C17_shipped_build :
    Gen.shippedConfigs.all (fun c => isOkE (buildDesc Gen.regs c.2)) = true := by
  rw [List.all_eq_true]
  intro c hc
  have h := List.all_eq_true.mp C17_shipped_components c hc
  cases hb : buildDesc Gen.regs c.2 with
  | ok d => rfl
  | error e => rw [hb] at h; cases h

/-- 21 files, each with a byte-identical packaged copy, and nothing else packaged -/
theorem C17_shipped_packaged :
    Gen.shippedConfigs.length = 21 ∧ Gen.packagedIdentical.all (·.2) = true ∧
    Gen.packagedFiles = Gen.shippedConfigs.map (·.1) := ⟨rfl, rfl, rfl⟩

/-- every registered gym id points to a packaged (hence shipped) file, and every shipped file has
an id -/
theorem C17_registered_ids :
    Gen.registeredIds.all (fun kv => Gen.packagedFiles.contains kv.2) = true ∧
    Gen.packagedFiles.all (fun f => Gen.registeredIds.any (·.2 == f)) = true ∧
    (Gen.registeredIds.map (·.1)).eraseDups.length = Gen.registeredIds.length := by decide +kernel

example : (factoryCheck Gen.regs.reward "reach_exit" ["reward_on", "colour", "reward_off"]).map (·.2) =
    .ok ["reward_on", "reward_off"] := by rfl
example : factoryCheck Gen.regs.reset "keydoor" [] = .error .valueError := by rfl

end GV
