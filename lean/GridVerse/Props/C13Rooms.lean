/-
  C13 for the `rooms` layout (continuation of Props/C13.lean): the reset succeeds for every valid
  parameter set and every stream of draws and produces the room grid with one exit and the agent on
  distinct floor cells (`rooms_reset`, which Props/C14Rooms.lean also starts from); it rejects the
  other parameter sets.
-/
import GridVerse.Lemmas.Rooms
import GridVerse.Props.C13
namespace GV

/-- the room grid has a closed wall boundary: its floor cells are off the split lines, or openings
strictly inside an inner one -/
theorem RoomsGrid.border {h w : Nat} {ys xs : List Int} {g : Grid} (rg : RoomsGrid h w ys xs g)
    (sy : SplitsOK h ys) (sx : SplitsOK w xs) {q : Pos} (hq : g.contains q = true) (hb : onBorder h w q) :
    g.at q = .wall := by
  refine (rg.kinds q hq).resolve_right fun hf => ?_
  unfold onBorder at hb
  rcases rg.floors q hq hf with ⟨hy, hx⟩ | ⟨hy, px, hpx, a, b⟩ | ⟨hx, py, hpy, a, b⟩
  · rcases hb with h | h | h | h
    · exact (sy.off_rim hy).1 h
    · exact (sy.off_rim hy).2 h
    · exact (sx.off_rim hx).1 h
    · exact (sx.off_rim hx).2 h
  · have := sy.inner_lt hy
    have := sx.between hpx a b
    omega
  · have := sx.inner_lt hx
    have := sy.between hpy a b
    omega

theorem rooms_reset (sh : Shape) (lh lw : Int) (ys xs : List Int) (d : DrawSt)
    (hv : 4 ≤ sh.h ∧ 3 ≤ sh.w) (hl : 1 ≤ lh ∧ 1 ≤ lw)
    (sy : SplitsOK sh.h ys) (sx : SplitsOK sh.w xs) :
    ∃ s d' g0 ep, resetRooms sh lh lw ys xs d = .ok (s, d') ∧
      RoomsFinal sh.h.toNat sh.w.toNat ys xs g0 s.grid ep ∧
      g0.contains s.agent.pos = true ∧ g0.at s.agent.pos = .floor ∧ s.agent.pos ≠ ep ∧
      s.agent.held = .noneObj := by
  obtain ⟨hh, hw⟩ := hv
  obtain ⟨g, d1, eg, rg⟩ := roomsGrid_spec sh lh lw ys xs d hl sy sx
  -- two distinct floor cells exist: (1, 1) and (h - 2, 1)
  have c1in : g.contains ⟨1, 1⟩ = true := Grid.contains_inner rg.gh rg.gw (by omega) (by omega) (by omega) (by omega)
  have c2in : g.contains ⟨sh.h - 2, 1⟩ = true :=
    Grid.contains_inner rg.gh rg.gw (by omega) (by omega) (by omega) (by omega)
  have c1 := (mem_floorPositions g _).mpr ⟨c1in, rg.room _ c1in sy.one_not_mem sx.one_not_mem⟩
  have c2 := (mem_floorPositions g _).mpr ⟨c2in, rg.room _ c2in sy.penult_not_mem sx.one_not_mem⟩
  have hlen := two_le_length_of_mem c1 c2 (by rw [Ne, Pos.ext_iff']; simp only; omega)
  obtain ⟨i0, i1, d2, hc, ma, me, hne⟩ := pick_two (floorPositions g) ⟨0, 0⟩ (Grid.find_nodup _ _) hlen d1
  obtain ⟨k, d3, hk, _⟩ := drawChoice_pos 4 (by omega) d2
  obtain ⟨ac, af⟩ := (mem_floorPositions g _).mp ma
  obtain ⟨ec, ef⟩ := (mem_floorPositions g _).mp me
  refine ⟨⟨g.setP ((floorPositions g).getD i1 ⟨0, 0⟩) (.exit .none), ⟨(floorPositions g).getD i0 ⟨0, 0⟩, orientList.getD k .F, .noneObj⟩⟩,
    d3, g, _, ?_, ⟨rg, ec, ef, rfl⟩, ac, af, hne, rfl⟩
  simp only [resetRooms, eg, hc, List.getD_cons_zero, List.getD_cons_succ, hk, Grid.setE_ok g _ _ ec]

/-- **C13 (`rooms`), structure.**  Under the hypotheses of `rooms_reset` the state is well formed: declared
shape, a closed wall boundary, walls and floor only apart from exactly one exit, the agent empty-handed
on a floor cell. -/
theorem C13_rooms_wf (sh : Shape) (lh lw : Int) (ys xs : List Int) (d : DrawSt)
    (hv : 4 ≤ sh.h ∧ 3 ≤ sh.w) (hl : 1 ≤ lh ∧ 1 ≤ lw)
    (sy : SplitsOK sh.h ys) (sx : SplitsOK sh.w xs) :
    ∃ s d' ep, resetRooms sh lh lw ys xs d = .ok (s, d') ∧
      s.grid.WF ∧ s.grid.h = sh.h.toNat ∧ s.grid.w = sh.w.toNat ∧
      (∀ q, s.grid.contains q = true → onBorder sh.h.toNat sh.w.toNat q → s.grid.at q = .wall) ∧
      (∀ q, s.grid.contains q = true → s.grid.at q = .wall ∨ s.grid.at q = .floor ∨ (q = ep ∧ s.grid.at q = .exit .none)) ∧
      s.grid.at ep = .exit .none ∧ (∀ q, s.grid.contains q = true → (s.grid.at q).isKind .exit = true → q = ep) ∧
      s.grid.contains s.agent.pos = true ∧ s.grid.at s.agent.pos = .floor ∧ s.agent.held = .noneObj := by
  obtain ⟨s, d', g0, ep, he, rf, ac, af, ane, hheld⟩ := rooms_reset sh lh lw ys xs d hv hl sy sx
  have hc := rf.contains
  refine ⟨s, d', ep, he, rf.wf, by rw [rf.eq]; exact rf.base.gh, by rw [rf.eq]; exact rf.base.gw, ?_,
    fun q hq => rf.kinds (hc q ▸ hq), by rw [rf.at, if_pos rfl], ?_, by rw [hc]; exact ac,
    by rw [rf.at, if_neg ane]; exact af, hheld⟩
  · intro q hq hb
    have hw := rf.base.border sy.toNat sx.toNat (hc q ▸ hq) hb
    rw [rf.at, if_neg fun (h : q = ep) => by rw [h, rf.epFloor] at hw; cases hw]
    exact hw
  · intro q hq hk
    rcases rf.kinds (hc q ▸ hq) with h | h | ⟨h, _⟩
    · rw [h] at hk; cases hk
    · rw [h] at hk; cases hk
    · exact h

theorem roomsGrid_rejects (sh : Shape) (lh lw : Int) (ys xs : List Int) (d : DrawSt)
    (hbad : lh < 1 ∨ lw < 1 ∨ tooClose ys = true ∨ tooClose xs = true) :
    roomsGrid sh lh lw ys xs d = .error .valueError := by
  unfold roomsGrid
  refine guard_valueError fun c1 => guard_valueError fun c2 => guard_valueError fun c3 => absurd hbad ?_
  simpa [c2, c3] using c1

/-- the code's own checks reject everything else whatever the stream: non-positive layouts and split
vectors with two lines less than two apart (a side too short for the layout) -/
theorem C13_rooms_rejects (sh : Shape) (lh lw : Int) (ys xs : List Int) (d : DrawSt)
    (hbad : lh < 1 ∨ lw < 1 ∨ tooClose ys = true ∨ tooClose xs = true) :
    resetRooms sh lh lw ys xs d = .error .valueError := by
  simp only [resetRooms, roomsGrid_rejects sh lh lw ys xs d hbad]

/-- **F12 (repaired).**  Stated on the theorems' own hypothesis: a split vector that is not `Gapped`
(two adjacent wall lines, as `np.linspace(0, 6, 5, dtype=int) = [0, 1, 3, 4, 6]` for seven rows and four
rows of rooms) is rejected (the unrepaired code rejected repeated entries only, and the vectors
excluded here gave disconnected floors).  With numpy's end points (`0` first, `n - 1` last) acceptance is
exactly `SplitsOK`, the hypothesis of `C13_rooms_wf` / `C14_rooms`. -/
theorem C13_rooms_rejects_adjacent (sh : Shape) (lh lw : Int) (ys xs : List Int) (d : DrawSt)
    (hbad : ¬ Gapped ys ∨ ¬ Gapped xs) :
    resetRooms sh lh lw ys xs d = .error .valueError := by
  apply C13_rooms_rejects
  simp only [← tooClose_eq_false_iff, Bool.not_eq_false] at hbad
  exact Or.inr (Or.inr hbad)

example : ¬ Gapped [0, 1, 3, 4, 6] ∧ tooClose [0, 1, 3, 4, 6] = true := by
  refine ⟨?_, by decide⟩
  simp [Gapped]

/-- the hypotheses are met by the shipped parameter sets (numpy's `linspace` vectors as recorded by
the harness): 7×7 and 9×9 with layout 2×2, 10×10 and 13×13 with layout 3×3 -/
example : SplitsOK 7 [0, 3, 6] ∧ tooClose [0, 3, 6] = false ∧ SplitsOK 9 [0, 4, 8] ∧ SplitsOK 10 [0, 3, 6, 9] ∧
    SplitsOK 13 [0, 4, 8, 12] ∧ tooClose [0, 4, 8, 12] = false := by
  have ok {n l} (h : splitsOKb n l = true) : SplitsOK n l := (splitsOKb_iff n l).mp h
  exact ⟨ok (by decide), by decide, ok (by decide), ok (by decide), ok (by decide), by decide⟩

end GV
