/-
  C20 — the gym adapter along *histories*, and the inversion of its returns.

  `Props/C20.lean` pins each call down in the forward direction (given what the inner environment
  answers, this is what the adapter returns).  Here the statements a user relies on are proved in the
  direction the user meets them — *from the returned value*, for every history of gym-level calls,
  whatever succeeded or failed before: the array is the representation of an observation (a state) the
  functional interface produces for the state the environment is in *now*, reward and flag are those of
  the transition just made, the state wrapper is a view, and a refused call changes nothing.
-/
import GridVerse.Props.C20
namespace GV

/-- the calls a gym user can make -/
inductive GymOp
  | reset
  | step (i : Int)
  | stateReset
  | stateStep (i : Int)

def gymExec {Rep} (e : EnvSpec) (o : OuterSpec Rep) (m : Machine) : GymOp → Machine × GymOut Rep
  | .reset => gymReset e o m
  | .step i => gymStep e o m i
  | .stateReset => gymStateReset e o m
  | .stateStep i => gymStateStep e o m i

def gymRun {Rep} (e : EnvSpec) (o : OuterSpec Rep) : Machine → List GymOp → Machine × List (GymOut Rep)
  | m, [] => (m, [])
  | m, op :: ops =>
    let r := gymExec e o m op
    let rest := gymRun e o r.1 ops
    (rest.1, r.2 :: rest.2)

/-- the state wrapper leaves the inner environment exactly as the wrapped call leaves it -/
theorem C20_state_wrapper_same_machine {Rep} (e : EnvSpec) (o : OuterSpec Rep) (m : Machine) :
    (gymStateReset e o m).1 = (gymReset e o m).1 ∧
    ∀ i, (gymStateStep e o m i).1 = (gymStep e o m i).1 := by
  -- the wrapper's own read, `outerState`, returns the machine it is given
  constructor
  · simp only [gymStateReset, outerState_eq]
    generalize gymReset e o m = p
    split
    · split <;> (rename_i hy; exact (Prod.mk.inj hy).1.symm)
    · rfl
  · intro i
    simp only [gymStateStep, outerState_eq]
    generalize gymStep e o m i = p
    split
    · split <;> (rename_i hy; exact (Prod.mk.inj hy).1.symm)
    · rfl

/-- `m'` is reached from `m` by inner calls of the kind the adapter makes: `reset`, `readObs`, and
`step` with an action of the action space -/
def Machine.Reach (e : EnvSpec) (m m' : Machine) : Prop :=
  ∃ l : List Op, m' = (Machine.run e m l).1 ∧
    ∀ op ∈ l, op = .reset ∨ op = .readObs ∨ ∃ i a, e.actions.intToAction i = .ok a ∧ op = .step a

theorem Machine.Reach.refl (e : EnvSpec) (m : Machine) : Machine.Reach e m m := ⟨[], rfl, fun _ h => nomatch h⟩

theorem Machine.Reach.trans {e : EnvSpec} {m1 m2 m3 : Machine} (h1 : Machine.Reach e m1 m2) (h2 : Machine.Reach e m2 m3) :
    Machine.Reach e m1 m3 := by
  obtain ⟨l1, rfl, p1⟩ := h1
  obtain ⟨l2, rfl, p2⟩ := h2
  exact ⟨l1 ++ l2, (Machine.run_append e m1 l1 l2).symm, fun op hop => (List.mem_append.mp hop).elim (p1 op) (p2 op)⟩

theorem Machine.Reach.exec (e : EnvSpec) (m : Machine) (op : Op)
    (hop : op = .reset ∨ op = .readObs ∨ ∃ i a, e.actions.intToAction i = .ok a ∧ op = .step a) :
    Machine.Reach e m (m.exec e op).1 :=
  ⟨[op], rfl, fun _ hx => List.mem_singleton.mp hx ▸ hop⟩

theorem outerObs_reach {Rep} (e : EnvSpec) (o : OuterSpec Rep) (m : Machine) : Machine.Reach e m (outerObs e o m).1 := by
  rw [outerObs_eq]
  split
  · exact .refl e m
  · exact .exec e m .readObs (.inr (.inl rfl))

theorem gymReset_reach {Rep} (e : EnvSpec) (o : OuterSpec Rep) (m : Machine) : Machine.Reach e m (gymReset e o m).1 := by
  have h1 : Machine.Reach e m (m.exec e .reset).1 := .exec e m .reset (.inl rfl)
  unfold gymReset
  generalize m.exec e .reset = p at h1
  have h2 := h1.trans (outerObs_reach e o p.1)
  split
  · exact h1
  · split <;> (rename_i hy; rw [hy] at h2; exact h2)

theorem gymStep_reach {Rep} (e : EnvSpec) (o : OuterSpec Rep) (m : Machine) (i : Int) :
    Machine.Reach e m (gymStep e o m i).1 := by
  unfold gymStep
  split
  · exact .refl e m
  · rename_i a ha
    have h1 : Machine.Reach e m (m.exec e (.step a)).1 := .exec e m _ (.inr (.inr ⟨i, a, ha, rfl⟩))
    generalize m.exec e (.step a) = p at h1
    have h2 := h1.trans (outerObs_reach e o p.1)
    split
    · split <;> (rename_i hy; rw [hy] at h2; exact h2)
    · exact h1
    · exact h1

theorem gymExec_reach {Rep} (e : EnvSpec) (o : OuterSpec Rep) (m : Machine) (op : GymOp) :
    Machine.Reach e m (gymExec e o m op).1 := by
  cases op with
  | reset => exact gymReset_reach e o m
  | step i => exact gymStep_reach e o m i
  | stateReset => exact (C20_state_wrapper_same_machine e o m).1 ▸ gymReset_reach e o m
  | stateStep i => exact (C20_state_wrapper_same_machine e o m).2 i ▸ gymStep_reach e o m i

/-- every machine a gym history reaches is reached by a history of the inner interface that uses
only `reset`, `step` (with actions of the action space) and `readObs`: the adapter and the state
wrapper keep nothing of their own between calls -/
theorem C20_trace_inclusion {Rep} (e : EnvSpec) (o : OuterSpec Rep) (m : Machine) (ops : List GymOp) :
    ∃ l : List Op, (gymRun e o m ops).1 = (Machine.run e m l).1 ∧
      ∀ op ∈ l, op = .reset ∨ op = .readObs ∨ ∃ i a, e.actions.intToAction i = .ok a ∧ op = .step a := by
  induction ops generalizing m with
  | nil => exact Machine.Reach.refl e m
  | cons op ops ih => exact (gymExec_reach e o m op).trans (ih _)

/-- after any history of gym-level calls — successful or not, on the plain adapter or through the
state wrapper — the memoised observation belongs to the current state -/
theorem C20_fresh_always {Rep} (e : EnvSpec) (o : OuterSpec Rep) (d : DrawSt) (ops : List GymOp) :
    (gymRun e o (Machine.init d) ops).1.Fresh e := by
  obtain ⟨l, h, _⟩ := C20_trace_inclusion e o (Machine.init d) ops
  rw [h]
  exact C04_fresh_always e d l

/-- the array is the representation of the memoised observation, which the functional interface
produces for the state held now -/
def IsCurrentObs {Rep} (e : EnvSpec) (o : OuterSpec Rep) (m' : Machine) (r : Rep) : Prop :=
  ∃ f ob s d0 d1, o.obsRep = some f ∧ m'.obs = some ob ∧ f ob = .ok r ∧ m'.state = some s ∧
    e.functionalObservation s d0 = .ok (ob, d1)

/-- the array is the representation of the state held now -/
def IsCurrentState {Rep} (o : OuterSpec Rep) (m' : Machine) (r : Rep) : Prop :=
  ∃ g s, o.stateRep = some g ∧ m'.state = some s ∧ g s = .ok r

/-! ### what a returned value is

A successful `reset`/`step` has just replaced the state, so the observation it returns is computed in
the same call (`C04_invalidate`): `gymReset_inv` and `gymStep_inv` hold for every machine, and the
freshness hypotheses of `C20_step_inv` and `C20_state_wrapper_inv` are not used. -/

/-- a refused index, a failed reset and a failed step leave the environment as it was -/
theorem C20_refused_changes_nothing {Rep} (e : EnvSpec) (o : OuterSpec Rep) (m : Machine) :
    (∀ i err, e.actions.intToAction i = .error err → gymStep e o m i = (m, .err err)) ∧
    (∀ err, e.functionalReset m.d = .error err → gymReset e o m = (m, .err err)) ∧
    (∀ i a s err, e.actions.intToAction i = .ok a → m.state = some s →
      e.functionalStep s a m.d = .error err → gymStep e o m i = (m, .err err)) ∧
    (∀ i a, e.actions.intToAction i = .ok a → m.state = none →
      gymStep e o m i = (m, .err .runtimeError)) := by
  refine ⟨C20_step_bad_index e o m, ?_, ?_, ?_⟩
  · intro err h; simp only [gymReset, Machine.exec_reset_error h]
  · intro i a s err ha hs h; simp only [gymStep, ha, Machine.exec_step_error hs h]
  · intro i a ha hs; simp only [gymStep, ha, Machine.exec_step_none a hs]

/-- `outer_env.observation` on the machine `⟨s, no memo, d⟩` left `m'` and returned `r`: it computed the
observation of `s` with `d`, memoised it and converted it -/
def ObservedAt {Rep} (e : EnvSpec) (o : OuterSpec Rep) (s : State) (d : DrawSt) (m' : Machine) (r : Rep) : Prop :=
  ∃ f ob d2, o.obsRep = some f ∧ e.functionalObservation s d = .ok (ob, d2) ∧ f ob = .ok r ∧
    m' = ⟨some s, some ob, d2⟩

theorem ObservedAt.current {Rep} {e : EnvSpec} {o : OuterSpec Rep} {s : State} {d : DrawSt} {m' : Machine} {r : Rep}
    (h : ObservedAt e o s d m' r) : IsCurrentObs e o m' r := by
  obtain ⟨f, ob, d2, hf, ho, hc, rfl⟩ := h
  exact ⟨f, ob, s, d, d2, hf, rfl, hc, rfl, ho⟩

theorem ObservedAt.state {Rep} {e : EnvSpec} {o : OuterSpec Rep} {s : State} {d : DrawSt} {m' : Machine} {r : Rep}
    (h : ObservedAt e o s d m' r) : m'.state = some s := by
  obtain ⟨_, _, _, _, _, _, rfl⟩ := h
  rfl

theorem outerObs_fresh_inv {Rep} {e : EnvSpec} {o : OuterSpec Rep} {s : State} {d1 : DrawSt} {m' : Machine} {r : Rep}
    (h : outerObs e o ⟨some s, none, d1⟩ = (m', .rep r)) : ObservedAt e o s d1 m' r := by
  cases hf : o.obsRep with
  | none => simp only [outerObs, hf] at h; cases h
  | some f =>
  cases ho : e.functionalObservation s d1 with
  | error err =>
    simp only [outerObs, hf, (C04_read_computes e ⟨some s, none, d1⟩ s rfl rfl).1 err ho] at h
    cases h
  | ok p =>
  obtain ⟨ob, d2⟩ := p
  rw [outerObs_fresh hf ho] at h
  cases hc : f ob with
  | error err => rw [hc] at h; cases h
  | ok r' =>
    rw [hc] at h
    obtain ⟨rfl, hrr⟩ := Prod.mk.inj h
    exact ⟨f, ob, d2, hf, ho, OuterOut.rep.inj hrr ▸ hc, rfl⟩

theorem outerState_inv {Rep} {e : EnvSpec} {o : OuterSpec Rep} {m m' : Machine} {r : Rep}
    (h : outerState e o m = (m', .rep r)) : m' = m ∧ IsCurrentState o m r := by
  simp only [outerState_eq, Prod.mk.injEq] at h
  obtain ⟨rfl, h⟩ := h
  refine ⟨rfl, ?_⟩
  split at h
  · cases h
  · cases h
  · rename_i g s hg hs
    split at h
    · rename_i hr; exact ⟨g, s, hg, hs, OuterOut.rep.inj h ▸ hr⟩
    · cases h

theorem gymReset_inv {Rep} {e : EnvSpec} {o : OuterSpec Rep} {m m' : Machine} {r : Rep}
    (h : gymReset e o m = (m', .reset r)) :
    ∃ s d1, e.functionalReset m.d = .ok (s, d1) ∧ ObservedAt e o s d1 m' r := by
  cases hr : e.functionalReset m.d with
  | error err => rw [(C20_refused_changes_nothing e o m).2.1 err hr] at h; cases h
  | ok p =>
  obtain ⟨s, d1⟩ := p
  simp only [gymReset, C04_reset_is_functional e m s d1 hr] at h
  split at h
  · rename_i m'' r' hx
    obtain ⟨rfl, hrr⟩ := Prod.mk.inj h
    obtain rfl := GymOut.reset.inj hrr
    exact ⟨s, d1, rfl, outerObs_fresh_inv hx⟩
  all_goals cases h

theorem gymStep_inv {Rep} {e : EnvSpec} {o : OuterSpec Rep} {m m' : Machine} {i : Int} {r : Rep}
    {rw : List RTerm} {t : Bool} (h : gymStep e o m i = (m', .step r rw t)) :
    ∃ a s res, e.actions.intToAction i = .ok a ∧ m.state = some s ∧ e.functionalStep s a m.d = .ok res ∧
      rw = res.reward ∧ t = res.terminal ∧ ObservedAt e o res.next res.d m' r := by
  have hno := C20_refused_changes_nothing e o m
  cases ha : e.actions.intToAction i with
  | error err => rw [hno.1 i err ha] at h; cases h
  | ok a =>
  cases hs : m.state with
  | none => rw [hno.2.2.2 i a ha hs] at h; cases h
  | some s =>
  cases hst : e.functionalStep s a m.d with
  | error err => rw [hno.2.2.1 i a s err ha hs hst] at h; cases h
  | ok res =>
  simp only [gymStep, ha, C04_step_is_functional e m s a res hs hst] at h
  split at h
  · rename_i m'' r' hx
    obtain ⟨rfl, hrr⟩ := Prod.mk.inj h
    obtain ⟨rfl, rfl, rfl⟩ := GymOut.step.inj hrr
    exact ⟨a, s, res, rfl, rfl, hst, rfl, rfl, outerObs_fresh_inv hx⟩
  all_goals cases h

/-- inversion of `GymEnvironment.step`: a successful return comes from executing the `i`-th action
on the state held before the call; the reward and the flag are those of that transition, the machine
holds the post-step state, and the array shows it -/
theorem C20_step_inv {Rep} (e : EnvSpec) (o : OuterSpec Rep) (m m' : Machine) (i : Int) (r : Rep)
    (rw : List RTerm) (t : Bool) (hf : m.Fresh e) (h : gymStep e o m i = (m', .step r rw t)) :
    IsCurrentObs e o m' r ∧
    ∃ a s res, e.actions.intToAction i = .ok a ∧ m.state = some s ∧
      e.functionalStep s a m.d = .ok res ∧ rw = res.reward ∧ t = res.terminal ∧
      m'.state = some res.next := by
  obtain ⟨a, s, res, ha, hs, hst, hrw, ht, hob⟩ := gymStep_inv h
  exact ⟨hob.current, a, s, res, ha, hs, hst, hrw, ht, hob.state⟩

/-- what the plain adapter returns is current, for every machine reached by any gym history -/
theorem C20_returned_is_current {Rep} (e : EnvSpec) (o : OuterSpec Rep) (d : DrawSt)
    (ops : List GymOp) (i : Int) (m' : Machine) :
    let m := (gymRun e o (Machine.init d) ops).1
    (∀ r, gymReset e o m = (m', .reset r) → IsCurrentObs e o m' r) ∧
    (∀ r rw t, gymStep e o m i = (m', .step r rw t) → IsCurrentObs e o m' r) := by
  refine ⟨fun r h => ?_, fun r rw t h => ?_⟩
  · obtain ⟨_, _, _, hob⟩ := gymReset_inv h
    exact hob.current
  · obtain ⟨_, _, _, _, _, _, _, _, hob⟩ := gymStep_inv h
    exact hob.current

theorem gymStep_ne_stateStep {Rep} (e : EnvSpec) (o : OuterSpec Rep) (m : Machine) (i : Int)
    (st : Rep) (rw : List RTerm) (t : Bool) (ob : Rep) :
    (gymStep e o m i).2 ≠ .stateStep st rw t ob := by
  simp only [gymStep]
  repeat' split
  all_goals (intro h; cases h)

/-- inversion of the state wrapper: the state array represents the current (post-step) state, the
`info` array the current observation; reward and flag as for the wrapped step -/
theorem C20_state_wrapper_inv {Rep} (e : EnvSpec) (o : OuterSpec Rep) (m m' : Machine) (i : Int)
    (st ob : Rep) (rw : List RTerm) (t : Bool) (hf : m.Fresh e)
    (h : gymStateStep e o m i = (m', .stateStep st rw t ob)) :
    gymStep e o m i = (m', .step ob rw t) ∧ IsCurrentState o m' st ∧ IsCurrentObs e o m' ob := by
  simp only [gymStateStep] at h
  split at h
  · rename_i m1 ob1 r1 t1 hx
    split at h
    · rename_i m2 st1 hy
      simp only [Prod.mk.injEq, GymOut.stateStep.injEq] at h
      obtain ⟨rfl, rfl, rfl, rfl, rfl⟩ := h
      obtain ⟨rfl, hst⟩ := outerState_inv hy
      exact ⟨hx, hst, (C20_step_inv e o m m2 i ob1 r1 t1 hf hx).1⟩
    all_goals cases h
  · rename_i hx
    exact (gymStep_ne_stateStep e o m i st rw t ob (congrArg Prod.snd (hx.trans h))).elim

/-! ### non-vacuity: a concrete environment, a history with a refused call in the middle -/
section
private def exEnv : EnvSpec := {
  stateSpace := ⟨4, 4, [.wall, .floor, .exit], [.none]⟩, actions := ⟨Action.all⟩,
  obsSpace := ⟨2, 3, [.wall, .floor, .exit], [.none]⟩,
  reset := fun d => .ok (⟨Grid.fill 4 4 .floor, ⟨⟨1, 1⟩, .R, .noneObj⟩⟩, d),
  trans := [.moveAgent, .turnAgent], rewards := [.living (-1)],
  observe := observeOf .ft ⟨-1, 0, -1, 1⟩ [], term := .reachExit, debug := true }
/-- representations that merely tag (position of the agent / number of rows of the view) -/
private def exOuter : OuterSpec Nat :=
  ⟨some fun s => .ok s.agent.pos.x.toNat, some fun ob => .ok ob.grid.cells.length⟩

/-- after reset, a step, a refused index and a state-wrapper step: the machine holds the state two
moves on, the memo is present, the last return is a `stateStep` whose hypotheses the inversion
theorems therefore meet -/
example :
    let r := gymRun exEnv exOuter (Machine.init ⟨[], []⟩) [.reset, .step 0, .step 99, .stateStep 0]
    r.1.state = some ⟨Grid.fill 4 4 .floor, ⟨⟨1, 3⟩, .R, .noneObj⟩⟩ ∧ r.1.obs.isSome = true ∧
    (match r.2 with
     | [.reset _, .step _ _ false, .err .indexError, .stateStep 3 _ false _] => true
     | _ => false) = true := by
  decide +kernel
end

end GV
