/-
  C07 — Observations are egocentric: invariant under rotating the whole world.

  "Rotating the world - grid and agent pose together - by any quarter turn yields an equal
  observation for every built-in deterministic observation function and every view area."

  `rotWorld k s` rotates the grid with the library's own `grid * k` and moves the agent with it:
  its cell goes where the rotation sends it (`rho`), its heading becomes `(-k) * heading`.  The
  lemmas `C07_rot_get`, `C07_rot_front` justify that this *is* "the same world, rotated" — the
  definition is not tuned to the theorem.
-/
import GridVerse.Lemmas.Premask
import GridVerse.Props.C18
import GridVerse.Agree.Orient
import GridVerse.Agree.GridRot
namespace GV

/-- where the cell at `p` of `g` ends up in `g * k` -/
def rho (k : Orient) (g : Grid) (p : Pos) : Pos :=
  match k with
  | .F => p
  | .R => ⟨(g.w : Int) - 1 - p.x, p.y⟩
  | .B => ⟨(g.h : Int) - 1 - p.y, (g.w : Int) - 1 - p.x⟩
  | .L => ⟨p.x, (g.h : Int) - 1 - p.y⟩

def rotWorld (k : Orient) (s : State) : State :=
  ⟨Grid.rot k s.grid, ⟨rho k s.grid s.agent.pos, k.neg.mul s.agent.o, s.agent.held⟩⟩

theorem contains_rho (k : Orient) (g : Grid) (p : Pos) :
    (Grid.rot k g).contains (rho k g p) = g.contains p := by
  rw [Bool.eq_iff_iff, Grid.contains_iff, Grid.contains_iff]
  cases k <;> simp only [Grid.rot, Grid.tab_h, Grid.tab_w, rho] <;> omega

/-- on in-grid cells `rho` is the index map of the inverse rotation -/
theorem rho_natCast (k : Orient) (g : Grid) (y x : Nat) (hy : y < g.h) (hx : x < g.w) :
    rho k g ⟨y, x⟩ = ⟨((Grid.rotIdx k.neg (Grid.rot k g) y x).1 : Nat),
      ((Grid.rotIdx k.neg (Grid.rot k g) y x).2 : Nat)⟩ := by
  cases k <;> simp only [rho, Grid.rotIdx, Orient.neg, Grid.rot, Grid.tab_h, Grid.tab_w,
    natCast_rev hy, natCast_rev hx]

/-- the rotated grid holds at `rho p` what the grid held at `p` — inside and outside alike -/
theorem C07_rot_get (k : Orient) (g : Grid) (p : Pos) : (Grid.rot k g).at (rho k g p) = g.at p := by
  cases hp : g.contains p
  · rw [Grid.at_of_not_contains _ _ hp,
      Grid.at_of_not_contains _ _ ((contains_rho k g p).trans hp)]
  · obtain ⟨y, x, hy, hx, rfl⟩ := Grid.exists_natCast hp
    obtain ⟨i1, i2, i3⟩ := Grid.rotIdx_inv k g y x hy hx
    rw [rho_natCast k g _ _ hy hx, Grid.at_natCast _ _ _ i1 i2, C18_rot_cell _ _ _ _ i1 i2, i3,
      Grid.at_natCast _ _ _ hy hx]

/-- `rho` is a rigid motion: the pose transform that turns by `-k` about the image of the origin -/
theorem rho_eq_act (k : Orient) (g : Grid) (p : Pos) :
    rho k g p = Transform.act ⟨rho k g ⟨0, 0⟩, k.neg⟩ p := by
  cases k <;> simp only [rho, Transform.act, Orient.neg, Orient.act, Pos.add, Int.sub_eq_add_neg,
    Int.neg_zero, Int.add_zero, Int.zero_add]

/-- so it commutes with the agent's pose transform -/
theorem C07_act_rho (k : Orient) (g : Grid) (pos : Pos) (o : Orient) (q : Pos) :
    Transform.act ⟨rho k g pos, k.neg.mul o⟩ q = rho k g (Transform.act ⟨pos, o⟩ q) := by
  rw [rho_eq_act k g pos, rho_eq_act k g (Transform.act _ q)]
  exact C18_transform_act_mul ⟨rho k g ⟨0, 0⟩, k.neg⟩ ⟨pos, o⟩ q

/-- the rotated agent faces the rotated front cell (and so on for every relative position) -/
theorem C07_rot_front (k : Orient) (s : State) :
    (rotWorld k s).agent.front = rho k s.grid s.agent.front ∧
    (rotWorld k s).agent.pos = rho k s.grid s.agent.pos ∧
    (rotWorld k s).grid.at (rotWorld k s).agent.front = s.grid.at s.agent.front := by
  have h : (rotWorld k s).agent.front = rho k s.grid s.agent.front :=
    C07_act_rho k s.grid s.agent.pos s.agent.o _
  exact ⟨h, rfl, h ▸ C07_rot_get k s.grid _⟩

theorem rho_rho (k : Orient) (g : Grid) (p : Pos) : rho k.neg (Grid.rot k g) (rho k g p) = p := by
  cases k <;> simp only [rho, Orient.neg, Grid.rot, Grid.tab_h, Grid.tab_w, Int.sub_sub_self]

/-- rotating back restores the world -/
theorem C07_rot_back (k : Orient) (s : State) (hw : s.grid.WF)
    (hc : s.grid.contains s.agent.pos = true) : rotWorld k.neg (rotWorld k s) = s := by
  simp only [rotWorld, C18_rot_inverse k s.grid hw, rho_rho, ← C18_mul_assoc, C18_neg_mul,
    C18_one_mul]

/-- the pre-mask views of the world and of the rotated world coincide -/
theorem C07_premask (k : Orient) (s : State) (a : Area) (ha : a.WF) :
    premask (rotWorld k s) a = premask s a := by
  rw [premask_eq_tab _ a ha, premask_eq_tab _ a ha]
  apply Grid.tab_congr
  intro i j _ _
  exact (congrArg _ (C07_act_rho k s.grid s.agent.pos s.agent.o _)).trans (C07_rot_get k s.grid _)

/-- C07: for every quarter turn, state, view area and visibility function (flood fill, ray
tracing with whatever fan, fully transparent, …) the observation of the rotated world equals the
observation of the world -/
theorem C07_invariant (V : Grid → Pos → Except PyErr Mask) (k : Orient) (s : State) (a : Area)
    (ha : a.WF) : fromVisibility V (rotWorld k s) a = fromVisibility V s a := by
  rw [fromVisibility_eq, fromVisibility_eq, C07_premask k s a ha]
  rfl

/-! ### non-vacuity: a non-square world and an asymmetric view -/
example :
    let s : State := ⟨⟨2, 3, [[.wall, .key .red, .floor], [.exit .none, .floor, .obstacle]]⟩,
      ⟨⟨1, 1⟩, .L, .noneObj⟩⟩
    (rotWorld .R s).grid = ⟨3, 2, [[.floor, .obstacle], [.key .red, .floor], [.wall, .exit .none]]⟩ ∧
    (rotWorld .R s).agent.pos = ⟨1, 1⟩ ∧ (rotWorld .R s).agent.o = .B ∧
    premask (rotWorld .R s) ⟨-1, 0, -1, 2⟩ = premask s ⟨-1, 0, -1, 2⟩ := by decide +kernel

end GV
