/-
  C15 — Numeric representations always lie inside their declared spaces.

  "For every state or observation space and each representation (default, no-overlap, compact),
  converting any member state or observation yields, key by key, arrays whose shape, dtype and
  bounds satisfy the representation's declared space, and the same holds for the spaces advertised
  at the gym layer. In particular this holds at every step of every trajectory of every shipped
  environment."

  dtype: the `grid`, `agent_id_grid`, `item` arrays are integer lists in the model and the `agent`
  array is a list of fractions, matching the categorical / discrete / continuous space types; that
  numpy produces `int64` / `float64` arrays is checked by the correspondence (`Space.contains`
  evaluated on every converted array).  The clause about shipped trajectories is
  `C15_shipped_trajectories` in Props/C01Shipped.lean (states; `Gen.ShippedEnv` carries no observation
  function).
-/
import GridVerse.Lemmas.Repr
import GridVerse.Props.C01
namespace GV

theorem objInBounds_three {u1 u2 u3 v1 v2 v3 : Int} (h1 : 0 ≤ v1 ∧ v1 ≤ u1) (h2 : 0 ≤ v2 ∧ v2 ≤ u2)
    (h3 : 0 ≤ v3 ∧ v3 ≤ u3) : objInBounds [u1, u2, u3] [v1, v2, v3] = true := by
  simp [objInBounds, h1.1, h1.2, h2.1, h2.2, h3.1, h3.2]

theorem compactType_bounds (c : ReprCtx) (k : Kind) (hk : k ∈ c.kinds) :
    0 ≤ c.compactType k ∧ c.compactType k ≤ (c.sortedKinds.length : Int) - 1 := by
  obtain ⟨i, hi, hlt⟩ := indexOf?_mem (mem_sortedKinds.mpr hk)
  simp only [ReprCtx.compactType, hi]
  omega

theorem compactState_bounds (c : ReprCtx) (k : Kind) (j : Nat) (hk : k ∈ c.kinds) (hj : j < k.numStates) :
    0 ≤ c.compactState k j ∧
    c.compactState k j ≤ ((c.sortedKinds.length + c.totalStates : Nat) : Int) - 1 ∧ 0 < c.totalStates := by
  have hsum := sum_takeWhile_add_le (mem_sortedKinds.mpr hk)
  simp only [c.compactState_eq hk hj, ReprCtx.statesBefore, ReprCtx.totalStates]
  omega

theorem compactColor_bounds (c : ReprCtx) (col : Color) (hc : col ∈ c.colors) :
    0 ≤ c.compactColor col ∧
    c.compactColor col ≤
      ((c.sortedKinds.length + c.totalStates + c.sortedColors.length : Nat) : Int) - 1 ∧
    0 < c.sortedColors.length := by
  obtain ⟨i, hi, hlt⟩ := indexOf?_mem (mem_sortedColors.mpr hc)
  simp only [ReprCtx.compactColor, hi]
  omega

/-- on an object of the context the compact lookup tables are indexed within their sizes -/
theorem objConvert_compact (c : ReprCtx) (o : Obj) (h : InCtx c o) :
    objConvert .compact c o =
      .ok [c.compactType o.kind, c.compactState o.kind o.stateIndex, c.compactColor o.color] := by
  obtain ⟨h1, h2, h3⟩ := c.bounds o h.1 h.2
  simp [objConvert, ReprCtx.dims, Nat.lt_add_one_of_le h1, Nat.lt_add_right 1 h2, Nat.lt_add_one_of_le h3]

theorem C15_obj_compact (c : ReprCtx) (o : Obj) (h : InCtx c o) :
    ∃ v, objConvert .compact c o = .ok v ∧ objInBounds (objUpper .compact c) v = true := by
  refine ⟨_, objConvert_compact c o h, ?_⟩
  obtain ⟨hk, hc⟩ := h
  obtain ⟨t1, t2⟩ := compactType_bounds c o.kind hk
  obtain ⟨s1, s2, s3⟩ := compactState_bounds c o.kind o.stateIndex hk (stateIndex_lt_numStates o)
  obtain ⟨c1, c2, c3⟩ := compactColor_bounds c o.color hc
  simp only [objUpper, if_neg (Nat.ne_of_gt s3), if_neg (Nat.ne_of_gt c3)]
  exact objInBounds_three ⟨t1, t2⟩ ⟨s1, s2⟩ ⟨c1, c2⟩

/-- every object whose type and colour belong to the representation's sets encodes within the
declared bounds.  Default and no-overlap are the index triple shifted by fixed offsets, which the
declared bounds share. -/
theorem C15_obj (enc : Enc) (c : ReprCtx) (o : Obj) (h : InCtx c o) :
    ∃ v, objConvert enc c o = .ok v ∧ objInBounds (objUpper enc c) v = true := by
  obtain ⟨h1, h2, h3⟩ := c.bounds o h.1 h.2
  cases enc
  case compact => exact C15_obj_compact c o h
  all_goals exact ⟨_, rfl, by apply objInBounds_three <;> constructor <;> omega⟩

theorem gridConvert_in_space (enc : Enc) (c : ReprCtx) (g : Grid)
    (hcells : g.InCtx c) :
    ∃ r, gridConvert enc c g = .ok r ∧
      (⟨g.h, g.w, objUpper enc c⟩ : ReprSpace).containsGrid r = true := by
  unfold gridConvert
  obtain ⟨rows, hrows, hlen, hP⟩ := mapE_ok _ (fun (row : List (List Int)) => row.length = g.w ∧
      ∀ v ∈ row, objInBounds (objUpper enc c) v = true) (List.range g.h) fun i hi => by
    obtain ⟨row, hrow, hlen, hP⟩ := mapE_ok (fun (j : Nat) => objConvert enc c (g.cell i j))
      (fun v => objInBounds (objUpper enc c) v = true) (List.range g.w) fun j hj =>
        C15_obj enc c _ (hcells i j (List.mem_range.mp hi) (List.mem_range.mp hj))
    exact ⟨row, hrow, by simpa using hlen, hP⟩
  refine ⟨rows, hrows, ?_⟩
  simp only [ReprSpace.containsGrid, Bool.and_eq_true, beq_iff_eq, List.all_eq_true]
  exact ⟨by simpa using hlen, hP⟩

/-- for a position inside the grid no index wraps: the marker is set at that cell -/
theorem agentIdGrid_of_contains (g : Grid) (p : Pos) (hp : g.contains p = true) :
    agentIdGrid g p = .ok ((List.range g.h).map fun i => (List.range g.w).map fun j =>
      if i = p.y.toNat ∧ j = p.x.toNat then (1 : Int) else 0) := by
  rw [Grid.contains_iff] at hp
  obtain ⟨h1, h2, h3, h4⟩ := hp
  simp [agentIdGrid, h1, h2, h3, h4]

theorem agentIdGrid_in_space (g : Grid) (p : Pos) (hp : g.contains p = true) (u : List Int) :
    ∃ r, agentIdGrid g p = .ok r ∧ (⟨g.h, g.w, u⟩ : ReprSpace).containsAgentId r = true := by
  refine ⟨_, agentIdGrid_of_contains g p hp, ?_⟩
  simp only [ReprSpace.containsAgentId, List.length_map, List.length_range, beq_self_eq_true,
    Bool.true_and, List.all_eq_true]
  intro row hrow
  obtain ⟨i, _, rfl⟩ := List.mem_map.mp hrow
  simp only [List.length_map, List.length_range, beq_self_eq_true, Bool.true_and, List.all_eq_true,
    Bool.and_eq_true, decide_eq_true_eq]
  intro v hv
  obtain ⟨j, _, rfl⟩ := List.mem_map.mp hv
  split <;> omega

theorem agentArray_in_space (g : Grid) (a : Agent) (hp : g.contains a.pos = true) (hh : 2 ≤ g.h)
    (hw : 2 ≤ g.w) : ∃ r, agentArray g a = .ok r ∧ ReprSpace.containsAgent r = true := by
  rw [Grid.contains_iff] at hp
  have : ¬ (g.h = 1 ∨ g.w = 1) := by omega
  refine ⟨_, if_neg this, ?_⟩
  have onehot : ∀ i : Nat, (0 : Int) ≤ (if i = a.o.value then 1 else 0) ∧ (if i = a.o.value then (1 : Int) else 0) ≤ 1 := by
    intro i; split <;> decide
  simp [ReprSpace.containsAgent]
  exact ⟨by omega, fun i _ => onehot i⟩

theorem okObj_inCtx {sp : StateSpace} {deep : Bool} {o : Obj} (h : okObj sp deep o = true) :
    InCtx (ReprCtx.ofState sp) o := by
  obtain ⟨hk, hc⟩ := okObj_shallow sp deep o h
  exact ⟨List.mem_cons_of_mem _ (by simpa using hk), List.mem_cons.mpr ((colorOk_iff _ _).mp hc)⟩

theorem Conf.inCtx {sp : StateSpace} {deep : Bool} {s : State} (c : Conf sp deep s) :
    s.grid.InCtx (ReprCtx.ofState sp) ∧
    InCtx (ReprCtx.ofState sp) s.agent.held :=
  ⟨Grid.cell_of_at fun q hq => okObj_inCtx (c.cells q hq),
    c.held.elim (fun h => h ▸ ⟨List.mem_cons_self .., List.mem_cons_self ..⟩) okObj_inCtx⟩

/-- C15 for states, from conformance (`C01_contains_iff`: for rectangular grids, membership) -/
theorem C15_state_conf (enc : Enc) {sp : StateSpace} {deep : Bool} (debug : Bool) {s : State} (c : Conf sp deep s)
    (hh : 2 ≤ sp.h) (hw : 2 ≤ sp.w) :
    ∃ r, stateConvert enc sp debug s = .ok r ∧ (stateSpaceOf enc sp).containsState r = true := by
  obtain ⟨hcells, hheld⟩ := c.inCtx
  obtain ⟨rg, hrg, hsg⟩ := gridConvert_in_space enc (ReprCtx.ofState sp) s.grid hcells
  obtain ⟨ra, hra, hsa⟩ := agentIdGrid_in_space s.grid s.agent.pos c.pos (objUpper enc (ReprCtx.ofState sp))
  obtain ⟨rp, hrp, hsp⟩ := agentArray_in_space s.grid s.agent c.pos (by rw [c.h]; exact hh) (by rw [c.w]; exact hw)
  obtain ⟨ri, hri, hsi⟩ := C15_obj enc (ReprCtx.ofState sp) s.agent.held hheld
  refine ⟨⟨rg, ra, rp, ri⟩, by simp [stateConvert, c.contains, hrg, hra, hrp, hri], ?_⟩
  simp only [ReprSpace.containsState, stateSpaceOf, Bool.and_eq_true]
  rw [← c.h, ← c.w]
  exact ⟨⟨⟨hsg, hsa⟩, hsp⟩, hsi⟩

/-- C15 for states: a member of the state space (rectangular grid, at least 2×2 — one row or column
divides by zero) converts, with the debug check on or off, to a dictionary inside the declared
space, key by key -/
theorem C15_state (enc : Enc) (sp : StateSpace) (debug : Bool) (s : State) (hg : s.grid.WF)
    (hm : sp.contains s = true) (hh : 2 ≤ sp.h) (hw : 2 ≤ sp.w) :
    ∃ r, stateConvert enc sp debug s = .ok r ∧ (stateSpaceOf enc sp).containsState r = true :=
  C15_state_conf enc debug ((C01_contains_iff sp s hg).mp hm) hh hw

theorem inCtx_ofObs {sp : ObsSpace} {o : Obj} (hk : o.kind = .hidden ∨ o.kind = .noneObj ∨ o.kind ∈ sp.kinds)
    (hc : colorOk sp.colors o.color = true) : InCtx (ReprCtx.ofObs sp) o :=
  ⟨by simpa [ReprCtx.ofObs] using hk, List.mem_cons.mpr ((colorOk_iff _ _).mp hc)⟩

/-- C15 for observations (Hidden cells allowed; unlike `C15_state`, no lower bound on the shape is needed) -/
theorem C15_obs (enc : Enc) (sp : ObsSpace) (debug : Bool) (o : Obs) (hg : o.grid.WF)
    (hm : sp.contains o = true) :
    ∃ r, obsConvert enc sp debug o = .ok r ∧ (obsSpaceOf enc sp).containsObs r = true := by
  obtain ⟨eh, ew, hcell, hpos, hheld, hheldc⟩ := (ObsSpace.contains_iff sp o hg).mp hm
  simp only [List.contains_eq_mem, decide_eq_true_eq] at hcell hheld
  have hcells := Grid.cell_of_at fun q hq => inCtx_ofObs ((hcell q hq).1.imp_right .inr) (hcell q hq).2
  obtain ⟨rg, hrg, hsg⟩ := gridConvert_in_space enc (ReprCtx.ofObs sp) o.grid hcells
  obtain ⟨ra, hra, hsa⟩ := agentIdGrid_in_space o.grid o.agent.pos hpos (objUpper enc (ReprCtx.ofObs sp))
  obtain ⟨ri, hri, hsi⟩ := C15_obj enc (ReprCtx.ofObs sp) o.agent.held (inCtx_ofObs (.inr hheld) hheldc)
  refine ⟨⟨rg, ra, ri⟩, ?_, ?_⟩
  · simp [obsConvert, hm, hrg, hra, hri]
  · simp only [ReprSpace.containsObs, obsSpaceOf, Bool.and_eq_true]
    rw [← eh, ← ew]
    exact ⟨⟨hsg, hsa⟩, hsi⟩

/-- why the theorems need declared colours (and `StateSpace.contains` checks them — findings/F8): an
undeclared colour falls outside the bounds -/
example :
    let c : ReprCtx := ReprCtx.ofState ⟨3, 3, [.floor, .key], [.red]⟩
    objConvert .default c (.key .blue) = .ok [6, 0, 3] ∧
    objInBounds (objUpper .default c) [6, 0, 3] = false := ⟨rfl, by decide⟩

example :
    let sp : StateSpace := ⟨2, 2, [.wall, .floor, .door, .key], [.yellow]⟩
    let s : State := ⟨⟨2, 2, [[.wall, .door .locked .yellow], [.floor, .key .yellow]]⟩, ⟨⟨1, 0⟩, .L, .key .yellow⟩⟩
    sp.contains s = true ∧ s.grid.WF := by
  exact ⟨by decide, (Grid.wfb_iff _).mp rfl⟩

end GV
