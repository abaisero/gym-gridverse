/-
  C18 — Geometry is a consistent algebra of quarter turns and rigid motions.

  "Orientations form the cyclic group of quarter turns with FORWARD as identity and act linearly and
  isometrically on positions; pose transforms compose associatively with an identity and inverses,
  and acting with a composed transform equals acting successively. Transforming an area transforms
  exactly its set of positions, rotating a grid rearranges but preserves its objects and is undone
  by the inverse rotation, and the tentative-next-position helper agrees with the pose algebra."

  All statements are over unbounded `Int` coordinates and arbitrary grid shapes.  The operator
  tables used here are proved equal to the tables extracted from the source in `Agree/Orient.lean`,
  `Agree/GridRot.lean` and `Agree/Actions.lean`, which the check of this property builds with it.
-/
import GridVerse.Lemmas.Grid
import GridVerse.Lemmas.Rot
namespace GV

/-! ### orientations: the cyclic group of order four -/

theorem C18_mul_assoc (a b c : Orient) : (a.mul b).mul c = a.mul (b.mul c) := by
  cases a <;> cases b <;> cases c <;> rfl
theorem C18_mul_comm (a b : Orient) : a.mul b = b.mul a := by
  cases a <;> cases b <;> rfl
theorem C18_one_mul (a : Orient) : Orient.F.mul a = a := rfl
theorem C18_mul_one (a : Orient) : a.mul .F = a := by cases a <;> rfl
theorem C18_mul_neg (a : Orient) : a.mul a.neg = .F := by cases a <;> rfl
theorem C18_neg_mul (a : Orient) : a.neg.mul a = .F := by cases a <;> rfl
theorem C18_neg_neg (a : Orient) : a.neg.neg = a := by cases a <;> rfl
theorem Orient.mul_neg_mul (o t : Orient) : o.mul (o.neg.mul t) = t := by
  rw [← C18_mul_assoc, C18_mul_neg, C18_one_mul]
theorem Orient.mul_L_L (o : Orient) : (o.mul .L).mul .L = o.mul .B := by cases o <;> rfl

/-- `o` composed with itself `n` times -/
def Orient.pow (o : Orient) : Nat → Orient
  | 0 => .F
  | n+1 => o.mul (o.pow n)

/-- cyclic: every orientation is a power of RIGHT, of exponent below four -/
theorem C18_cyclic (a : Orient) : ∃ k, k < 4 ∧ a = Orient.R.pow k := by
  cases a
  · exact ⟨0, by omega, rfl⟩
  · exact ⟨2, by omega, rfl⟩
  · exact ⟨3, by omega, rfl⟩
  · exact ⟨1, by omega, rfl⟩
theorem C18_order_four (a : Orient) : a.pow 4 = .F := by cases a <;> rfl
theorem C18_R_order_exact : Orient.R.pow 1 ≠ .F ∧ Orient.R.pow 2 ≠ .F ∧ Orient.R.pow 3 ≠ .F := by
  refine ⟨?_, ?_, ?_⟩ <;> decide

/-! ### linear, isometric action on positions -/

theorem C18_act_one (p : Pos) : Orient.F.act p = p := rfl
theorem C18_act_mul (a b : Orient) (p : Pos) : (a.mul b).act p = a.act (b.act p) := by
  cases a <;> cases b <;> simp only [Orient.mul, Orient.act, Int.neg_neg]
theorem C18_act_add (o : Orient) (p q : Pos) : o.act (p.add q) = (o.act p).add (o.act q) := by
  cases o <;> simp only [Orient.act, Pos.add, Int.neg_add]
theorem C18_act_neg (o : Orient) (p : Pos) : o.act p.neg = (o.act p).neg := by
  cases o <;> rfl
theorem C18_act_sub (o : Orient) (p q : Pos) : o.act (p.sub q) = (o.act p).sub (o.act q) :=
  (C18_act_add o p q.neg).trans (congrArg _ (C18_act_neg o q))
theorem C18_act_zero (o : Orient) : o.act ⟨0, 0⟩ = ⟨0, 0⟩ := by cases o <;> rfl
theorem C18_act_injective (o : Orient) (p q : Pos) (h : o.act p = o.act q) : p = q := by
  have := congrArg (Orient.act o.neg) h
  rw [← C18_act_mul, ← C18_act_mul, C18_neg_mul] at this
  exact this

/-- a quarter turn permutes the two coordinates up to sign, so it preserves every distance that
sums over the two coordinates a function unchanged by negating both of its arguments -/
theorem Orient.act_coordSum (f : Int → Int → Int) (hf : ∀ a b, f (-a) (-b) = f a b) (o : Orient)
    (p q : Pos) :
    f (o.act p).y (o.act q).y + f (o.act p).x (o.act q).x = f p.y q.y + f p.x q.x := by
  cases o <;> simp only [Orient.act, hf]
  all_goals exact Int.add_comm _ _

theorem neg_sub_neg (a b : Int) : -a - -b = -(a - b) := by omega

theorem C18_manhattan_invariant (o : Orient) (p q : Pos) :
    Pos.manhattan (o.act p) (o.act q) = Pos.manhattan p q :=
  o.act_coordSum (fun a b => ((a - b).natAbs : Int))
    (fun a b => by simp only [neg_sub_neg, Int.natAbs_neg]) p q
theorem C18_euclidean_invariant (o : Orient) (p q : Pos) :
    Pos.sqEuclid (o.act p) (o.act q) = Pos.sqEuclid p q :=
  o.act_coordSum (fun a b => (a - b) * (a - b))
    (fun a b => by simp only [neg_sub_neg, Int.neg_mul_neg]) p q
theorem C18_translation_isometry (t p q : Pos) :
    Pos.manhattan (t.add p) (t.add q) = Pos.manhattan p q ∧
    Pos.sqEuclid (t.add p) (t.add q) = Pos.sqEuclid p q := by
  simp only [Pos.manhattan, Pos.sqEuclid, Pos.add, Int.add_sub_add_left, and_self]

theorem C18_ofOrient_act (o : Orient) : Pos.ofOrient o = o.act (Pos.ofOrient .F) := by
  cases o <;> rfl

/-! ### pose transforms: a group acting on positions -/

theorem Pos.add_assoc (p q r : Pos) : (p.add q).add r = p.add (q.add r) := by
  simp only [Pos.add, Int.add_assoc]
theorem Pos.add_zero (p : Pos) : p.add ⟨0, 0⟩ = p := by simp only [Pos.add, Int.add_zero]
theorem Pos.zero_add (p : Pos) : Pos.add ⟨0, 0⟩ p = p := by simp only [Pos.add, Int.zero_add]
theorem Pos.add_neg (p : Pos) : p.add p.neg = ⟨0, 0⟩ := by
  simp only [Pos.add, Pos.neg, Int.add_right_neg]
theorem Pos.neg_add (p : Pos) : p.neg.add p = ⟨0, 0⟩ := by
  simp only [Pos.add, Pos.neg, Int.add_left_neg]

theorem C18_transform_assoc (t u v : Transform) : (t.mul u).mul v = t.mul (u.mul v) := by
  simp only [Transform.mul, C18_mul_assoc, C18_act_add, C18_act_mul, Pos.add_assoc]
theorem C18_transform_one_mul (t : Transform) : Transform.id.mul t = t := by
  simp only [Transform.mul, Transform.id, C18_act_one, Pos.zero_add, C18_one_mul]
theorem C18_transform_mul_one (t : Transform) : t.mul Transform.id = t := by
  simp only [Transform.mul, Transform.id, C18_act_zero, Pos.add_zero, C18_mul_one]
theorem C18_transform_mul_neg (t : Transform) : t.mul t.neg = Transform.id := by
  simp only [Transform.mul, Transform.neg, Transform.id, C18_mul_neg, C18_act_neg, ← C18_act_mul,
    C18_act_one, Pos.add_neg]
theorem C18_transform_neg_mul (t : Transform) : t.neg.mul t = Transform.id := by
  simp only [Transform.mul, Transform.neg, Transform.id, C18_neg_mul, Pos.neg_add]
theorem C18_transform_act_mul (t u : Transform) (p : Pos) : (t.mul u).act p = t.act (u.act p) := by
  simp only [Transform.mul, Transform.act, C18_act_add, C18_act_mul, Pos.add_assoc]
theorem C18_transform_act_id (p : Pos) : Transform.id.act p = p := by
  simp only [Transform.id, Transform.act, C18_act_one, Pos.zero_add]
theorem C18_transform_act_orient (t u : Transform) (o : Orient) :
    (t.mul u).actOrient o = t.actOrient (u.actOrient o) := by
  simp only [Transform.mul, Transform.actOrient, C18_mul_assoc]
theorem C18_transform_isometry (t : Transform) (p q : Pos) :
    Pos.manhattan (t.act p) (t.act q) = Pos.manhattan p q ∧
    Pos.sqEuclid (t.act p) (t.act q) = Pos.sqEuclid p q := by
  unfold Transform.act
  rw [(C18_translation_isometry _ _ _).1, (C18_translation_isometry _ _ _).2,
    C18_manhattan_invariant, C18_euclidean_invariant]
  exact ⟨rfl, rfl⟩

/-! ### areas: the transformed area is exactly the image of the positions -/

theorem C18_area_contains_act (o : Orient) (a : Area) (p : Pos) :
    (o.actArea a).contains (o.act p) = a.contains p := by
  rw [Bool.eq_iff_iff, Area.contains_iff, Area.contains_iff]
  -- the same four inequalities on both sides, in another order
  cases o <;> simp only [Orient.actArea, Orient.act, Int.neg_le_neg_iff] <;>
    constructor <;> rintro ⟨h1, h2, h3, h4⟩ <;> exact ⟨‹_›, ‹_›, ‹_›, ‹_›⟩
theorem C18_area_contains_shift (t : Pos) (a : Area) (p : Pos) :
    (Area.shift t a).contains (t.add p) = a.contains p := by
  rw [Bool.eq_iff_iff, Area.contains_iff, Area.contains_iff]
  simp only [Area.shift, Pos.add, Int.add_le_add_iff_left]
theorem C18_area_contains_transform (t : Transform) (a : Area) (p : Pos) :
    (t.actArea a).contains (t.act p) = a.contains p := by
  unfold Transform.actArea Transform.act
  rw [C18_area_contains_shift, C18_area_contains_act]
/-- every position of the image area is the image of a position of the area (surjectivity) -/
theorem C18_area_image_surj (t : Transform) (a : Area) (q : Pos)
    (h : (t.actArea a).contains q = true) : ∃ p, a.contains p = true ∧ t.act p = q := by
  have e : t.act (t.neg.act q) = q := by
    rw [← C18_transform_act_mul, C18_transform_mul_neg, C18_transform_act_id]
  exact ⟨t.neg.act q, by rw [← C18_area_contains_transform t, e]; exact h, e⟩
theorem C18_area_WF (o : Orient) (a : Area) (h : a.WF) : (o.actArea a).WF := by
  obtain ⟨h1, h2⟩ := h
  cases o <;> simp only [Orient.actArea, Area.WF, Int.neg_le_neg_iff] <;> exact ⟨‹_›, ‹_›⟩
theorem C18_area_shape (o : Orient) (a : Area) :
    (o.actArea a).height = (match o with | .F | .B => a.height | _ => a.width) ∧
    (o.actArea a).width = (match o with | .F | .B => a.width | _ => a.height) := by
  cases o <;> simp only [Orient.actArea, Area.height, Area.width, neg_sub_neg, Int.neg_sub, and_self]
theorem C18_area_mul (a b : Orient) (ar : Area) : (a.mul b).actArea ar = a.actArea (b.actArea ar) := by
  cases a <;> cases b <;> simp only [Orient.mul, Orient.actArea, Int.neg_neg]

/-! ### grid rotation -/

theorem C18_rot_WF (o : Orient) (g : Grid) (hg : g.WF) : (Grid.rot o g).WF := by
  cases o
  · exact hg
  all_goals exact Grid.tab_WF _ _ _
theorem C18_rot_shape (o : Orient) (g : Grid) :
    ((o = .F ∨ o = .B) → (Grid.rot o g).h = g.h ∧ (Grid.rot o g).w = g.w) ∧
    ((o = .L ∨ o = .R) → (Grid.rot o g).h = g.w ∧ (Grid.rot o g).w = g.h) := by
  cases o <;> simp [Grid.rot]
/-- rotation rearranges cells: each cell of the rotated grid is a cell of the original at the
index given by `Grid.rotIdx`, which is a bijection between the two index rectangles -/
theorem C18_rot_cell (o : Orient) (g : Grid) (i j : Nat) (hi : i < (Grid.rot o g).h)
    (hj : j < (Grid.rot o g).w) :
    (Grid.rot o g).cell i j = g.cell (Grid.rotIdx o g i j).1 (Grid.rotIdx o g i j).2 := by
  cases o
  · rfl
  all_goals exact Grid.cell_tab _ _ _ i j hi hj
theorem C18_rot_idx_bijective (o : Orient) (g : Grid) :
    (∀ i j, i < (Grid.rot o g).h → j < (Grid.rot o g).w →
      (Grid.rotIdx o g i j).1 < g.h ∧ (Grid.rotIdx o g i j).2 < g.w) ∧
    (∀ i j i' j', i < (Grid.rot o g).h → j < (Grid.rot o g).w → i' < (Grid.rot o g).h →
      j' < (Grid.rot o g).w → Grid.rotIdx o g i j = Grid.rotIdx o g i' j' → i = i' ∧ j = j') ∧
    (∀ y x, y < g.h → x < g.w → ∃ i j, i < (Grid.rot o g).h ∧ j < (Grid.rot o g).w ∧
      Grid.rotIdx o g i j = (y, x)) := by
  refine ⟨fun i j hi hj => ?_, fun i j i' j' hi hj hi' hj' e => ?_,
    fun y x hy hx => ⟨_, _, Grid.rotIdx_inv o g y x hy hx⟩⟩
  · obtain ⟨h1, h2, -⟩ := Grid.rotIdx_left_inv o g i j hi hj
    exact ⟨h1, h2⟩
  · -- both pairs are the image of the common value under the index map of the inverse rotation
    have h := (Grid.rotIdx_left_inv o g i j hi hj).2.2
    rw [e, (Grid.rotIdx_left_inv o g i' j' hi' hj').2.2] at h
    exact Prod.mk.inj h.symm
/-- the rotation by `o` is undone by the rotation by `-o` -/
theorem C18_rot_inverse (o : Orient) (g : Grid) (hg : g.WF) : Grid.rot o.neg (Grid.rot o g) = g := by
  obtain ⟨hh, hw⟩ := Grid.rot_neg_rot_shape o g
  apply Grid.ext_cells _ _ (C18_rot_WF _ _ (C18_rot_WF _ _ hg)) hg hh hw
  intro i j hi hj
  obtain ⟨h1, h2, h3⟩ := Grid.rotIdx_inv o g i j (hh ▸ hi) (hw ▸ hj)
  rw [C18_rot_cell _ _ _ _ hi hj, C18_rot_cell _ _ _ _ h1 h2, h3]

/-- rotating preserves the objects: every count is unchanged -/
theorem C18_rot_count (o : Orient) (g : Grid) (hg : g.WF) (p : Obj → Bool) :
    (Grid.rot o g).count p = g.count p := by
  -- the count is a double sum over the index rectangle, which a rotation reverses or transposes
  rw [Grid.count_eq_sum g hg]
  cases o
  · exact Grid.count_eq_sum g hg p
  all_goals simp only [Grid.rot]; rw [Grid.count_tab]
  · rw [← sumTo_rev g.h (fun i => sumTo g.w (fun j => ind p (g.cell i j)))]
    apply sumTo_congr; intro i _
    exact sumTo_rev g.w (fun j => ind p (g.cell (g.h - 1 - i) j))
  · rw [sumTo_swap g.h g.w]
    apply sumTo_congr; intro i _
    exact sumTo_rev g.h (fun j => ind p (g.cell j i))
  · rw [sumTo_swap g.h g.w]
    exact sumTo_rev g.w (fun i => sumTo g.h (fun j => ind p (g.cell j i)))

/-! ### the tentative-next-position helper -/

theorem C18_nextPos_move (p : Pos) (o : Orient) (a : Action) (m : Orient) (h : a.moveOrient = some m) :
    nextPos p o a = Transform.act ⟨p, o⟩ (Pos.ofOrient m) := by
  simp only [nextPos, h, Transform.act]
  rw [C18_ofOrient_act (o.mul m), C18_act_mul, ← C18_ofOrient_act m]
theorem C18_nextPos_other (p : Pos) (o : Orient) (a : Action) (h : a.moveOrient = none) :
    nextPos p o a = p := by
  simp [nextPos, h]
theorem Pos.manhattan_add_self (p d : Pos) :
    Pos.manhattan (p.add d) p = d.y.natAbs + d.x.natAbs := by
  have h : ∀ a b : Int, a + b - a = b := fun a b => by omega
  simp only [Pos.manhattan, Pos.add, h]
theorem C18_nextPos_dist (p : Pos) (o : Orient) (a : Action) (h : a.isMove = true) :
    Pos.manhattan (nextPos p o a) p = 1 := by
  obtain ⟨m, hm⟩ := Option.isSome_iff_exists.mp h
  simp only [nextPos, hm, Pos.manhattan_add_self]
  cases o.mul m <;> rfl
theorem C18_front (ag : Agent) : ag.front = nextPos ag.pos ag.o .moveF :=
  (C18_nextPos_move ag.pos ag.o .moveF .F rfl).symm
theorem front_eq (a : Agent) : a.front = a.pos.add (Pos.ofOrient a.o) :=
  congrArg a.pos.add (C18_ofOrient_act a.o).symm

/-! ### non-vacuity: the hypotheses are met by concrete non-trivial inputs -/
example : (⟨3, 2, [[.wall, .floor], [.exit .red, .key .blue], [.floor, .obstacle]]⟩ : Grid).WF :=
  (Grid.wfb_iff _).mp rfl
example : (⟨-6, 0, -3, 3⟩ : Area).WF := by decide
example : Action.moveL.moveOrient = some .L ∧ Action.actuate.moveOrient = none := ⟨rfl, rfl⟩

end GV
