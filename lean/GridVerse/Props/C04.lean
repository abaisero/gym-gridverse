/-
  C04 — The stateful interface mirrors the functional one; observations are never stale.

  "Driving an environment with reset and step yields exactly the trajectory obtained by threading
  states through the functional interface with the same seed. The current observation always
  belongs to the current state: it is recomputed after every reset and step, computed at most once
  per state so repeated reads return the same observation without consuming randomness, and asking
  for the state before the first reset raises; the numeric outer environment exposes exactly the
  representations of the inner state and observation."
-/
import GridVerse.Model.Env
namespace GV

/-- `reset` and `step` are `functional_reset` / `functional_step` applied to the stored generator and
state; either drops the memoised observation -/
theorem C04_reset_is_functional (e : EnvSpec) (m : Machine) (s : State) (d' : DrawSt)
    (h : e.functionalReset m.d = .ok (s, d')) :
    m.exec e .reset = (⟨some s, none, d'⟩, .unit) := by
  simp [Machine.exec, h]

theorem C04_step_is_functional (e : EnvSpec) (m : Machine) (s : State) (a : Action) (r : StepResult)
    (hs : m.state = some s) (h : e.functionalStep s a m.d = .ok r) :
    m.exec e (.step a) = (⟨some r.next, none, r.d⟩, .stepRes r.reward r.terminal) := by
  simp [Machine.exec, hs, h]

theorem Machine.exec_reset_error {e : EnvSpec} {m : Machine} {err : PyErr}
    (h : e.functionalReset m.d = .error err) : m.exec e .reset = (m, .err err) := by
  simp only [Machine.exec, h]

theorem Machine.exec_step_none {e : EnvSpec} {m : Machine} (a : Action) (hs : m.state = none) :
    m.exec e (.step a) = (m, .err .runtimeError) := by
  simp only [Machine.exec, hs]

theorem Machine.exec_step_error {e : EnvSpec} {m : Machine} {s : State} {a : Action} {err : PyErr}
    (hs : m.state = some s) (h : e.functionalStep s a m.d = .error err) : m.exec e (.step a) = (m, .err err) := by
  simp only [Machine.exec, hs, h]

theorem Machine.exec_readState (e : EnvSpec) (m : Machine) :
    m.exec e .readState = (m, match m.state with | none => .err .runtimeError | some s => .state s) := by
  simp only [Machine.exec]
  cases m.state <;> rfl

theorem C04_read_state_pure (e : EnvSpec) (m : Machine) : (m.exec e .readState).1 = m := by
  rw [Machine.exec_readState]

/-- at most one observation is computed per state: with a memo present no draw is consumed -/
theorem C04_memo_no_draw (e : EnvSpec) (m : Machine) (o : Obs) (h : m.obs = some o) :
    m.exec e .readObs = (m, .obs o) := by
  simp [Machine.exec, h]

/-- the first read after a reset/step computes the observation of exactly the stored state with the
environment's own generator -/
theorem C04_read_computes (e : EnvSpec) (m : Machine) (s : State) (hs : m.state = some s)
    (hn : m.obs = none) :
    (∀ err, e.functionalObservation s m.d = .error err → m.exec e .readObs = (m, .err err)) ∧
    (∀ o d', e.functionalObservation s m.d = .ok (o, d') →
      m.exec e .readObs = ({ m with obs := some o, d := d' }, .obs o)) := by
  constructor
  · intro err h; simp [Machine.exec, hs, hn, h]
  · intro o d' h; simp [Machine.exec, hs, hn, h]

/-- failures leave the machine untouched -/
theorem C04_failure_changes_nothing (e : EnvSpec) (m : Machine) (op : Op) (err : PyErr)
    (h : (m.exec e op).2 = .err err) : (m.exec e op).1 = m := by
  cases op with
  | setSeed ans => simp [Machine.exec] at h
  | reset =>
    simp only [Machine.exec] at h ⊢
    split <;> simp_all
  | step a =>
    simp only [Machine.exec] at h ⊢
    split
    · rfl
    · split <;> simp_all
  | readState => exact C04_read_state_pure e m
  | readObs =>
    simp only [Machine.exec] at h ⊢
    split
    · rfl
    · split
      · rfl
      · split <;> simp_all

theorem Machine.run_append (e : EnvSpec) (m : Machine) (l1 l2 : List Op) :
    (Machine.run e m (l1 ++ l2)).1 = (Machine.run e (Machine.run e m l1).1 l2).1 := by
  induction l1 generalizing m with
  | nil => rfl
  | cons op l1 ih => simp only [List.cons_append, Machine.run]; exact ih _

/-- the trajectory of states obtained by threading the functional interface -/
def threadStates (e : EnvSpec) : List Action → State → DrawSt → Except PyErr (List State × DrawSt)
  | [], _, d => .ok ([], d)
  | a :: as, s, d =>
    match e.functionalStep s a d with
    | .error err => .error err
    | .ok r =>
      match threadStates e as r.next r.d with
      | .error err => .error err
      | .ok (l, d') => .ok (r.next :: l, d')

/-- the stateful machine, stepped without reads, visits exactly the threaded states and ends with
the same generator state -/
theorem C04_trajectory (e : EnvSpec) (acts : List Action) (s : State) (d : DrawSt)
    (l : List State) (d' : DrawSt) (h : threadStates e acts s d = .ok (l, d')) :
    (Machine.run e ⟨some s, none, d⟩ (acts.map Op.step)).1 =
      ⟨some (l.getLastD s), none, d'⟩ := by
  induction acts generalizing s d l with
  | nil =>
    obtain ⟨rfl, rfl⟩ := Prod.mk.inj (Except.ok.inj h)
    rfl
  | cons a as ih =>
    simp only [threadStates] at h
    split at h
    · cases h
    · rename_i r hf
      split at h
      · cases h
      · rename_i l' d'' ht
        obtain ⟨rfl, rfl⟩ := Prod.mk.inj (Except.ok.inj h)
        simp only [List.map_cons, Machine.run, C04_step_is_functional e ⟨some s, none, d⟩ s a r rfl hf]
        rw [ih r.next r.d l' ht]
        cases l' <;> rfl

/-- the memo, when present, is an observation the functional interface produced for the *current*
state -/
def Machine.Fresh (e : EnvSpec) (m : Machine) : Prop :=
  ∀ o, m.obs = some o → ∃ s d0 d1, m.state = some s ∧ e.functionalObservation s d0 = .ok (o, d1)

theorem C04_fresh_init (e : EnvSpec) (d : DrawSt) : (Machine.init d).Fresh e :=
  fun _ h => nomatch h

theorem C04_fresh_step (e : EnvSpec) (m : Machine) (op : Op) (hf : m.Fresh e) :
    (m.exec e op).1.Fresh e := by
  cases op with
  | setSeed ans => exact hf
  | reset =>
    simp only [Machine.exec]
    split
    · exact hf
    · exact fun _ h => nomatch h
  | step a =>
    simp only [Machine.exec]
    split
    · exact hf
    · split
      · exact hf
      · exact fun _ h => nomatch h
  | readState => rw [C04_read_state_pure]; exact hf
  | readObs =>
    simp only [Machine.exec]
    split
    · exact hf
    · split
      · exact hf
      · rename_i s hs
        split
        · exact hf
        · rename_i o d' hobs
          intro o' ho'
          simp only [Option.some.injEq] at ho'
          subst ho'
          exact ⟨s, m.d, d', hs, hobs⟩

theorem Machine.Fresh.run {e : EnvSpec} {m : Machine} (hf : m.Fresh e) (ops : List Op) :
    (Machine.run e m ops).1.Fresh e := by
  induction ops generalizing m with
  | nil => exact hf
  | cons op ops ih => exact ih (C04_fresh_step e m op hf)

/-- the memoised observation belongs to the current state after any sequence of operations -/
theorem C04_fresh_always (e : EnvSpec) (d : DrawSt) (ops : List Op) :
    (Machine.run e (Machine.init d) ops).1.Fresh e := (C04_fresh_init e d).run ops

/-- reset and step invalidate the memo: the next read recomputes -/
theorem C04_invalidate (e : EnvSpec) (m : Machine) (op : Op) (hop : op = .reset ∨ ∃ a, op = .step a)
    (hok : ∀ err, (m.exec e op).2 ≠ .err err) : (m.exec e op).1.obs = none := by
  rcases hop with rfl | ⟨a, rfl⟩
  · cases hr : e.functionalReset m.d with
    | error err => exact absurd (by rw [Machine.exec_reset_error hr]) (hok err)
    | ok p => rw [C04_reset_is_functional e m p.1 p.2 hr]
  · cases hs : m.state with
    | none => exact absurd (by rw [Machine.exec_step_none a hs]) (hok _)
    | some s =>
      cases hr : e.functionalStep s a m.d with
      | error err => exact absurd (by rw [Machine.exec_step_error hs hr]) (hok err)
      | ok r => rw [C04_step_is_functional e m s a r hs hr]

theorem Machine.exec_readObs_memo {e : EnvSpec} {m : Machine} {o : Obs} (h : (m.exec e .readObs).2 = .obs o) :
    (m.exec e .readObs).1.obs = some o := by
  simp only [Machine.exec] at h ⊢
  split at h
  · rename_i o' ho'
    rw [← Out.obs.inj h, ho']
  · split at h
    · cases h
    · split at h
      · cases h
      · rw [← Out.obs.inj h]

/-- a successful read of the observation is idempotent: the second read returns the same
observation and leaves the machine — in particular the generator — unchanged -/
theorem C04_read_idempotent (e : EnvSpec) (m : Machine) (o : Obs) (h : (m.exec e .readObs).2 = .obs o) :
    (m.exec e .readObs).1.exec e .readObs = ((m.exec e .readObs).1, .obs o) :=
  C04_memo_no_draw e _ o (Machine.exec_readObs_memo h)

/-- before the first reset: state, step and observation raise RuntimeError and change nothing -/
theorem C04_before_reset (e : EnvSpec) (d : DrawSt) (a : Action) :
    (Machine.init d).exec e .readState = (Machine.init d, .err .runtimeError) ∧
    (Machine.init d).exec e (.step a) = (Machine.init d, .err .runtimeError) ∧
    (Machine.init d).exec e .readObs = (Machine.init d, .err .runtimeError) := ⟨rfl, rfl, rfl⟩

theorem outerState_eq {Rep} (e : EnvSpec) (o : OuterSpec Rep) (m : Machine) :
    outerState e o m = (m, match o.stateRep, m.state with
      | none, _ => .err .runtimeError
      | some _, none => .inner (.err .runtimeError)
      | some g, some s => match g s with | .ok r => .rep r | .error err => .err err) := by
  simp only [outerState, Machine.exec_readState]
  cases o.stateRep with
  | none => rfl
  | some g =>
    cases m.state with
    | none => rfl
    | some s => simp only; cases g s <;> rfl

theorem outerObs_eq {Rep} (e : EnvSpec) (o : OuterSpec Rep) (m : Machine) :
    outerObs e o m = match o.obsRep with
      | none => (m, .err .runtimeError)
      | some f => ((m.exec e .readObs).1, match (m.exec e .readObs).2 with
        | .obs ob => (match f ob with | .ok r => .rep r | .error err => .err err)
        | out => .inner out) := by
  simp only [outerObs]
  cases o.obsRep with
  | none => rfl
  | some f =>
    simp only
    cases m.exec e .readObs with
    | mk m' out =>
      cases out <;> try rfl
      simp only; cases f _ <;> rfl

theorem C04_outer_state {Rep} (e : EnvSpec) (o : OuterSpec Rep) (m : Machine) (s : State)
    (f : State → Except PyErr Rep) (hf : o.stateRep = some f) (hs : m.state = some s) :
    outerState e o m = (m, match f s with | .ok r => .rep r | .error err => .err err) := by
  rw [outerState_eq, hf, hs]

theorem C04_outer_obs {Rep} (e : EnvSpec) (o : OuterSpec Rep) (m : Machine) (ob : Obs)
    (f : Obs → Except PyErr Rep) (hf : o.obsRep = some f) (h : (m.exec e .readObs).2 = .obs ob) :
    outerObs e o m = ((m.exec e .readObs).1, match f ob with | .ok r => .rep r | .error err => .err err) := by
  rw [outerObs_eq, hf]
  simp only [h]

theorem C04_outer_missing {Rep} (e : EnvSpec) (m : Machine) :
    outerState e (⟨none, none⟩ : OuterSpec Rep) m = (m, .err .runtimeError) ∧
    outerObs e (⟨none, none⟩ : OuterSpec Rep) m = (m, .err .runtimeError) := ⟨rfl, rfl⟩

/-! ### non-vacuity: a concrete environment and history -/
example :
    let e : EnvSpec := {
      stateSpace := ⟨4, 4, [.wall, .floor, .exit], [.none]⟩, actions := ⟨Action.all⟩,
      obsSpace := ⟨2, 3, [.wall, .floor, .exit], [.none]⟩,
      reset := fun d => .ok (⟨Grid.fill 4 4 .floor, ⟨⟨1, 1⟩, .R, .noneObj⟩⟩, d),
      trans := [.moveAgent, .turnAgent], rewards := [.living (-1)],
      observe := observeOf .ft ⟨-1, 0, -1, 1⟩ [], term := .reachExit, debug := true }
    let r := Machine.run e (Machine.init ⟨[], []⟩) [.reset, .readObs, .step .moveF, .readObs, .readObs]
    r.1.state = some ⟨Grid.fill 4 4 .floor, ⟨⟨1, 2⟩, .R, .noneObj⟩⟩ ∧ r.1.obs.isSome = true := by
  decide +kernel

end GV
