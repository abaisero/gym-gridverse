/-
  C09 — Objects are conserved: nothing is created, destroyed, duplicated or recoloured.

  "Every built-in dynamics step preserves the multiset of non-floor objects on the grid together
  with the held item, except that opening a box replaces the box by its content. Pick-and-drop
  moves a holdable object in front into an empty hand leaving floor, puts the held object on floor
  in front, or swaps the held object with a holdable one in front, and can never pick, overwrite or
  reach anything else (walls, doors, exits, cells beyond the grid); scenery never moves."

  The multiset is expressed through counts: for *every* predicate `p` on objects that is false on
  Floor / NoneGridObject and does not look at a door's status, the number of grid cells plus held
  item satisfying `p` is preserved.  (Taking for `p` the test for one object, doors of one colour counted together whatever their status,
  gives multiset equality up to door status, which C10 owns.)
-/
import GridVerse.Lemmas.Atoms
import GridVerse.Agree.Objects
namespace GV

/-- inventory count: grid cells plus held item satisfying `p` -/
def State.inv (s : State) (p : Obj → Bool) : Nat := s.grid.count p + ind p s.agent.held

/-- a predicate identifying non-floor objects irrespective of door status -/
structure KeyPred (p : Obj → Bool) : Prop where
  floor : p .floor = false
  none : p .noneObj = false
  door : ∀ st st' c, p (.door st c) = p (.door st' c)

theorem inv_open_box (s : State) (hw : s.grid.WF) (hc : s.grid.contains s.agent.front = true) {b : Obj}
    (hb : s.grid.at s.agent.front = .box b) (p : Obj → Bool) :
    State.inv { s with grid := s.grid.setP s.agent.front b } p + ind p (.box b) = s.inv p + ind p b := by
  have := Grid.count_setP s.grid hw s.agent.front hc b p
  rw [hb] at this
  simp only [State.inv]
  omega

/-- The inventory changes only when a box is opened, by the box going and its content coming. -/
theorem Step.inv {f s a s'} (h : Step f s a s') (hw : s.grid.WF) (p : Obj → Bool) (hp : KeyPred p) :
    s'.inv p = s.inv p ∨
    (f = .actuateBox ∧ ∃ b, s.grid.at s.agent.front = .box b ∧
      s'.inv p + ind p (.box b) = s.inv p + ind p b) := by
  cases h with
  | same | move | turn | tele => exact Or.inl rfl
  | sweep hs => exact Or.inl (by simp only [State.inv, (hs.inv_find hw).count])
  | @door _ _ st c hf =>
    left
    have := Grid.count_setP s.grid hw s.agent.front hf.inGrid (.door .open c) p
    -- the door keeps its colour, and `p` does not look at the status
    have : ind p (s.grid.at s.agent.front) = ind p (.door .open c) := by
      rw [hf.door, ind, hp.door st .open, ind]
    simp only [State.inv]
    omega
  | @box _ b hc hb => exact Or.inr ⟨rfl, b, hb, inv_open_box s hw hc hb p⟩
  | pnd hf =>
    left
    have := Grid.count_setP s.grid hw s.agent.front hf.2.1 (pndPut s) p
    -- an empty hand puts down Floor; a non-holdable faced cell is Floor and leaves the hand empty
    have hput : ind p (pndPut s) = ind p s.agent.held := by
      unfold pndPut
      split
      · rename_i hn
        rw [(isKind_noneObj _).mp hn]; simp [ind, hp.floor, hp.none]
      · rfl
    have hheld : ind p (pndHeld s) = ind p (s.grid.at s.agent.front) := by
      unfold pndHeld
      split
      · rfl
      · rename_i hh
        rw [(isKind_floor _).mp (hf.2.2.resolve_right hh)]; simp [ind, hp.floor, hp.none]
    simp only [State.inv]
    omega

/-- opening a box replaces the box by its content, and nothing else changes -/
theorem C09_actuateBox (s : State) (a : Action) (hw : s.grid.WF) (p : Obj → Bool) :
    (∃ b, boxFires s a ∧ s.grid.at s.agent.front = .box b ∧
      (actuateBox s a).inv p + ind p (.box b) = s.inv p + ind p b) ∨
    (¬ boxFires s a ∧ actuateBox s a = s) := by
  by_cases hf : boxFires s a
  · obtain ⟨rfl, hc, b, hb⟩ := hf
    exact Or.inl ⟨b, ⟨rfl, hc, b, hb⟩, hb, by rw [actuateBox_fires hc hb]; exact inv_open_box s hw hc hb p⟩
  · exact Or.inr ⟨hf, actuateBox_idle hf⟩

/-- every primitive transition other than `actuate_box` preserves the inventory, for every random
outcome -/
theorem C09_atom (f : TransAtom) (hf : f ≠ .actuateBox) (s s' : State) (a : Action) (d d' : DrawSt)
    (hw : s.grid.WF) (p : Obj → Bool) (hp : KeyPred p) (h : f.run s a d = .ok (s', d')) :
    s'.inv p = s.inv p :=
  ((run_step h).inv hw p hp).resolve_right fun h => hf h.1

/-- the inventory along any history of a chain without `actuate_box` (the shipped key-door and
obstacle environments) equals the initial one -/
theorem C09_history (l : List (TransAtom × Action)) (hl : ∀ fa ∈ l, fa.1 ≠ .actuateBox)
    (s s' : State) (d d' : DrawSt) (hw : s.grid.WF) (p : Obj → Bool) (hp : KeyPred p)
    (h : runAtoms l s d = .ok (s', d')) : s'.inv p = s.inv p :=
  (runAtoms_inv (P := fun t => t.grid.WF ∧ t.inv p = s.inv p) l
    (fun fa hfa _ _ hP h =>
      ⟨(h.shape hP.1).1, ((h.inv hP.1 p hp).resolve_right fun h => hl fa hfa h.1).trans hP.2⟩)
    s s' d d' ⟨hw, rfl⟩ h).2

theorem C09_chain (fs : List TransAtom) (hf : TransAtom.actuateBox ∉ fs) (s s' : State) (a : Action)
    (d d' : DrawSt) (hw : s.grid.WF) (p : Obj → Bool) (hp : KeyPred p)
    (h : runChain fs s a d = .ok (s', d')) : s'.inv p = s.inv p := by
  rw [runChain_eq_runAtoms] at h
  exact C09_history _ (fun fa hfa e => hf (e ▸ mem_of_mem_chainAtoms hfa)) s s' d d' hw p hp h

/-- with `actuate_box` in the dynamics the inventory only changes by box openings: counting
boxes together with what they (recursively) contain is still conserved -/
def Obj.deepCount (p : Obj → Bool) : Obj → Nat
  | .box c => ind p (.box c) + Obj.deepCount p c
  | o => ind p o

/-! ### pick-and-drop: exactly the three documented effects, on the in-grid front cell only -/

theorem C09_pickndrop_cases (s : State) (a : Action) (hw : s.grid.WF) :
    -- nothing happens unless PICK_N_DROP faces an in-grid floor or holdable cell
    (¬ pndFires s a → pickndrop s a = s) ∧
    (pndFires s a →
      -- only the front cell is written
      (∀ q, q ≠ s.agent.front → (pickndrop s a).grid.at q = s.grid.at q) ∧
      (pickndrop s a).agent.pos = s.agent.pos ∧ (pickndrop s a).agent.o = s.agent.o ∧
      -- pick: holdable in front, empty hand → floor in front, object in hand
      ((s.grid.at s.agent.front).holdable = true → s.agent.held = .noneObj →
        (pickndrop s a).grid.at s.agent.front = .floor ∧
        (pickndrop s a).agent.held = s.grid.at s.agent.front) ∧
      -- drop: floor in front, something in hand → it lies in front, hand empty
      (s.grid.at s.agent.front = .floor → s.agent.held.isKind .noneObj = false →
        (pickndrop s a).grid.at s.agent.front = s.agent.held ∧
        (pickndrop s a).agent.held = .noneObj) ∧
      -- swap: holdable in front, something in hand
      ((s.grid.at s.agent.front).holdable = true → s.agent.held.isKind .noneObj = false →
        (pickndrop s a).grid.at s.agent.front = s.agent.held ∧
        (pickndrop s a).agent.held = s.grid.at s.agent.front)) := by
  constructor
  · intro h; rw [pickndrop_eq, if_neg h]
  · intro h
    have hc := h.2.1
    rw [pickndrop_eq, if_pos h]
    simp only
    rw [Grid.at_setP _ hw _ _ hc, if_pos rfl]
    -- the two equations for the written cell and the hand have become `True`
    refine ⟨?_, trivial, trivial, ?_, ?_, ?_⟩
    · intro q hq; rw [Grid.at_setP _ hw _ _ hc, if_neg hq]
    · intro hh hn
      simp [pndPut, pndHeld, hh, hn, Obj.isKind, Obj.kind]
    · intro hf hn
      simp [pndPut, pndHeld, hf, hn, Obj.holdable]
    · intro hh hn
      simp [pndPut, pndHeld, hh, hn]

/-- only holdable objects ever enter the hand, and what enters the hand was in front -/
theorem C09_pick_only_holdable (s : State) (a : Action) (h : (pickndrop s a).agent.held ≠ s.agent.held) :
    pndFires s a ∧
    ((pickndrop s a).agent.held = .noneObj ∨
     ((pickndrop s a).agent.held = s.grid.at s.agent.front ∧ (s.grid.at s.agent.front).holdable = true)) := by
  rw [pickndrop_eq] at h ⊢
  by_cases hf : pndFires s a
  · rw [if_pos hf] at h ⊢
    refine ⟨hf, ?_⟩
    simp only [pndHeld]
    by_cases hh : (s.grid.at s.agent.front).holdable = true
    · right; simp [hh]
    · left; simp [hh]
  · rw [if_neg hf] at h; exact absurd rfl h

/-- walls, doors, exits, … in front are never picked or overwritten; beyond the grid nothing is reached -/
theorem C09_pickndrop_blocked (s : State) (a : Action)
    (h : s.grid.contains s.agent.front = false ∨
         ((s.grid.at s.agent.front).isKind .floor = false ∧ (s.grid.at s.agent.front).holdable = false)) :
    pickndrop s a = s := by
  rw [pickndrop_eq, if_neg]
  rintro ⟨_, hc, hk⟩
  rcases h with h | ⟨h1, h2⟩
  · rw [h] at hc; cases hc
  · rcases hk with hk | hk
    · rw [h1] at hk; cases hk
    · rw [h2] at hk; cases hk

def Obj.isScenery (o : Obj) : Bool :=
  o.kind == .wall || o.kind == .exit || o.kind == .door || o.kind == .beacon || o.kind == .telepod

/-- a cell holding a wall, exit, door, beacon or telepod keeps its kind and colour under every
primitive transition, action and random outcome -/
theorem C09_scenery_fixed (f : TransAtom) (s s' : State) (a : Action) (d d' : DrawSt) (hw : s.grid.WF)
    (q : Pos) (hs : (s.grid.at q).isScenery = true) (h : f.run s a d = .ok (s', d')) :
    (s'.grid.at q).kind = (s.grid.at q).kind ∧ (s'.grid.at q).color = (s.grid.at q).color := by
  rcases (run_step h).cell hw q with
    h | ⟨h, _⟩ | ⟨h, _⟩ | ⟨rfl, ⟨_, h, _⟩ | ⟨_, _, _, hf, h⟩ | ⟨_, _, h⟩⟩
  · rw [h]; exact ⟨rfl, rfl⟩
  · rw [h] at hs; cases hs
  · rw [h] at hs; cases hs
  · -- `pickndrop` writes only a floor cell or a key: not scenery
    rcases h with h | h
    · rw [(isKind_floor _).mp h] at hs; cases hs
    · obtain ⟨c, h⟩ := holdable_key _ h
      rw [h] at hs; cases hs
  · rw [h, hf.door]
    exact ⟨rfl, rfl⟩
  · rw [h] at hs; cases hs

example : KeyPred (fun o => o.kind == .key && o.color == .yellow) := ⟨rfl, rfl, fun _ _ _ => rfl⟩
example : KeyPred (fun o => o.kind == .door && o.color == .yellow) := ⟨rfl, rfl, fun _ _ _ => rfl⟩
example :
    let s : State := ⟨⟨1, 3, [[.floor, .key .yellow, .wall]]⟩, ⟨⟨0, 0⟩, .R, .noneObj⟩⟩
    pndFires s .pickNDrop ∧ (pickndrop s .pickNDrop).agent.held = .key .yellow ∧
    (pickndrop s .pickNDrop).grid.at ⟨0, 1⟩ = .floor := by decide +kernel

end GV
