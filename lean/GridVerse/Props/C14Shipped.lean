/-
  C14 for the shipped environments, collected: for each shipped environment other than the four
  `memory_rooms` ones (known finding F9), every stream of draws: the reset succeeds and the rewarded
  goal can be reached under the environment's own chain of transition functions and its own
  termination, without an earlier terminating step.  `Generated/Envs.lean` (regenerated from the
  YAML files on every run) supplies reset parameters, chain and termination; the Boolean
  `ShippedEnv.winClass` matches them against the hypotheses of the per-layout theorems and is
  checked by `decide`.
-/
import GridVerse.Props.C14Rooms
import GridVerse.Props.C14Crossing
import GridVerse.Props.C14Teleport
import GridVerse.Props.C14Obstacles
import GridVerse.Generated.Envs
namespace GV

def TermFn.isReachExit : TermFn → Bool
  | .reachExit => true
  | _ => false

theorem TermFn.eq_reachExit {t : TermFn} (h : t.isReachExit = true) : t = .reachExit := by
  cases t <;> simp [TermFn.isReachExit] at h ⊢

/-- the shipped termination of the obstacle tasks -/
def TermFn.isBumpAny : TermFn → Bool
  | .any [.reachExit, .bumpObstacle, .bumpWall] => true
  | _ => false

theorem TermFn.eq_bumpAny {t : TermFn} (h : t.isBumpAny = true) : t = .any [.reachExit, .bumpObstacle, .bumpWall] := by
  unfold TermFn.isBumpAny at h
  split at h
  · rfl
  · cases h

/-- the rewarded goal of an environment: the matching exit for the memory tasks, the exit otherwise -/
def Gen.ShippedEnv.goal (e : Gen.ShippedEnv) : State → Bool :=
  match e.reset with
  | .memory _ _ | .memoryRooms _ _ _ _ _ _ _ _ => goalMemory
  | _ => goalExit

/-- which winnability theorem applies (false: none — the `memory_rooms` environments) -/
def Gen.ShippedEnv.winClass (e : Gen.ShippedEnv) : Bool :=
  match e.reset with
  | .empty sh _ _ => decide (4 ≤ sh.h ∧ 4 ≤ sh.w) && e.trans == [.moveAgent, .turnAgent] && e.term.isReachExit
  | .rooms sh lh lw ys xs =>
    decide (4 ≤ sh.h ∧ 3 ≤ sh.w) && decide (1 ≤ lh ∧ 1 ≤ lw) && splitsOKb sh.h ys && splitsOKb sh.w xs &&
      e.trans == [.moveAgent, .turnAgent] && e.term.isReachExit
  | .dynamicObstacles sh n ra =>
    ((sh == ⟨5, 5⟩ && n == 1) || (sh == ⟨7, 7⟩ && n == 2)) && !ra && e.trans == obsChain && e.term.isBumpAny
  | .keydoor sh => decide (4 ≤ sh.h ∧ 5 ≤ sh.w) && e.trans == kdChain && e.term.isReachExit
  | .crossing sh n k =>
    decide (5 ≤ sh.h ∧ sh.h % 2 = 1 ∧ 5 ≤ sh.w ∧ sh.w % 2 = 1 ∧ 0 < n) && k == .wall &&
      e.trans == [.moveAgent, .turnAgent] && e.term.isReachExit
  | .teleport sh => decide (4 ≤ sh.h ∧ 4 ≤ sh.w) && e.trans == tpChain && e.term.isReachExit
  | .memory sh cs =>
    decide (5 ≤ sh.h ∧ 5 ≤ sh.w ∧ sh.w % 2 = 1 ∧ .none ∉ cs ∧ 2 ≤ cs.length) && decide cs.Nodup &&
      e.trans == [.moveAgent, .turnAgent] && e.term.isReachExit
  | .memoryRooms _ _ _ _ _ _ _ _ => false

theorem winnable_of_class (e : Gen.ShippedEnv) (hc : e.winClass = true) (d : DrawSt) :
    ∃ s d', e.reset.run d = .ok (s, d') ∧ Reaches e.trans (stopOf e.term) e.goal s := by
  obtain ⟨name, space, reset, trans, term⟩ := e
  cases reset <;>
    simp only [Gen.ShippedEnv.winClass, Bool.and_eq_true, Bool.or_eq_true, Bool.not_eq_true', decide_eq_true_eq,
      beq_iff_eq, Bool.false_eq_true] at hc
  case empty sh ra re =>
    obtain ⟨⟨hv, rfl⟩, hterm⟩ := hc
    obtain rfl := TermFn.eq_reachExit hterm
    exact C14_empty_reaches sh ra re d hv [.turnAgent] plainTurn
  case rooms sh lh lw ys xs =>
    obtain ⟨⟨⟨⟨⟨hv, hl⟩, sy⟩, sx⟩, rfl⟩, hterm⟩ := hc
    obtain rfl := TermFn.eq_reachExit hterm
    exact C14_rooms sh lh lw ys xs d hv hl ((splitsOKb_iff _ _).mp sy) ((splitsOKb_iff _ _).mp sx) [.turnAgent] plainTurn
  case dynamicObstacles sh n ra =>
    obtain ⟨⟨⟨hsn, rfl⟩, rfl⟩, hterm⟩ := hc
    obtain rfl := TermFn.eq_bumpAny hterm
    rcases hsn with ⟨rfl, rfl⟩ | ⟨rfl, rfl⟩
    · exact C14_dynamic_obstacles_5x5 d
    · exact C14_dynamic_obstacles_7x7 d
  case keydoor sh =>
    obtain ⟨⟨hv, rfl⟩, hterm⟩ := hc
    obtain rfl := TermFn.eq_reachExit hterm
    exact reaches_of_plan (C14_keydoor sh d ⟨[], []⟩ hv)
  case crossing sh n k =>
    obtain ⟨⟨⟨hv, rfl⟩, rfl⟩, hterm⟩ := hc
    obtain rfl := TermFn.eq_reachExit hterm
    exact C14_crossing sh n d hv [.turnAgent] plainTurn
  case teleport sh =>
    obtain ⟨⟨hv, rfl⟩, hterm⟩ := hc
    obtain rfl := TermFn.eq_reachExit hterm
    exact reaches_of_plan (C14_teleport sh d ⟨[], []⟩ hv)
  case memory sh cs =>
    obtain ⟨⟨⟨hv, hnd⟩, rfl⟩, hterm⟩ := hc
    obtain rfl := TermFn.eq_reachExit hterm
    exact reaches_of_plan (C14_memory sh cs d ⟨[], []⟩ hv hnd [.turnAgent] plainTurn)

/-- every shipped environment except the four `memory_rooms` ones falls under a winnability theorem -/
theorem C14_shipped_classes :
    Gen.shippedEnvs.all (fun e => e.winClass || (match e.reset with | .memoryRooms _ _ _ _ _ _ _ _ => true | _ => false)) = true ∧
    (Gen.shippedEnvs.filter fun e => e.winClass).length = 17 := by decide

/-- **C14 for the shipped environments** (all but the `memory_rooms` ones, known finding F9): for every
stream of draws the reset succeeds and the rewarded goal is reachable under the environment's own
dynamics and termination. -/
theorem C14_shipped_winnable (e : Gen.ShippedEnv) (he : e ∈ Gen.shippedEnvs)
    (hnm : ∀ sh lh lw ys xs cs nb ne, e.reset ≠ .memoryRooms sh lh lw ys xs cs nb ne) (d : DrawSt) :
    ∃ s d', e.reset.run d = .ok (s, d') ∧ Reaches e.trans (stopOf e.term) e.goal s := by
  have h := List.all_eq_true.mp C14_shipped_classes.1 e he
  simp only [Bool.or_eq_true] at h
  rcases h with h | h
  · exact winnable_of_class e h d
  · cases hr : e.reset with
    | memoryRooms sh lh lw ys xs cs nb ne => exact absurd hr (hnm _ _ _ _ _ _ _ _)
    | _ => cases h

end GV
