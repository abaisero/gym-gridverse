/-
  C06 — Hidden cells carry no information (occlusion is non-interfering and monotone).

  "For the deterministic occluding observation functions (partially occluded and ray-traced),
  replacing the content of any world cell that is reported Hidden, or that lies outside the view,
  leaves the observation unchanged. The agent's own cell is always visible, a cell is visible only
  if an unbroken chain of adjacent transparent visible cells links it to the agent, making a visible
  opaque cell transparent never hides a cell that was visible, and the stochastic variant only ever
  shows cells the deterministic ray-traced view can show and always shows cells every ray reaches
  lit."

  Ray-traced statements hold for *any* fan of rays (the fan the code computes with floating point
  is validated separately, C19).
-/
import GridVerse.Lemmas.Visibility
import GridVerse.Lemmas.Premask
import GridVerse.Agree.Objects
namespace GV

/-- two view grids of the same shape -/
def SameShape (g g' : Grid) : Prop := g.h = g'.h ∧ g.w = g'.w

theorem SameShape.contains {g g' : Grid} (h : SameShape g g') (q : Pos) : g'.contains q = g.contains q :=
  Grid.contains_congr h.1.symm h.2.symm q

/-- "differ only where the mask is off", as the statements below put it, read as "agree where it
is on" -/
theorem agree_of_shown {α} [DecidableEq α] {m : Mask} {f f' : Pos → α}
    (h : ∀ q, f' q ≠ f q → m q = false) (q : Pos) (hq : m q = true) : f' q = f q :=
  Decidable.by_contra fun hne => Bool.noConfusion ((h q hne).symm.trans hq)

/-! ### the flood-filled mask is reachability -/

/-- flood fill: a cell is visible iff it is reachable from the agent's cell through in-view
transparent cells by steps of `poNextLeft`, or by steps of `poNextRight` (each goes to an edge- or
corner-adjacent cell — up, sideways, or diagonally up: `poNext_adjacent`) -/
theorem C06_po_visible_iff (g : Grid) (p : Pos) (m : Mask) (hm : visPartiallyOccluded g p = .ok m)
    (q : Pos) :
    m q = true ↔ (Reach g.opq g.contains poNextLeft p q ∨ Reach g.opq g.contains poNextRight p q) :=
  ((visPartiallyOccluded_ok_iff g p m).mp hm).2 q

/-- flood fill: a visible cell is reachable from the agent's cell through in-view transparent
cells -/
theorem C06_po_chain (g : Grid) (p : Pos) (m : Mask) (hm : visPartiallyOccluded g p = .ok m) (q : Pos)
    (hq : m q = true) :
    Reach g.opq g.contains poNextLeft p q ∨ Reach g.opq g.contains poNextRight p q :=
  (C06_po_visible_iff g p m hm q).mp hq

/-! ### non-interference -/

/-- flood fill: if the grids' opacity differs only on cells the fill does not mark, the masks are
equal -/
theorem C06_po_noninterference (g g' : Grid) (p : Pos) (hs : SameShape g g') (m : Mask)
    (hm : visPartiallyOccluded g p = .ok m)
    (hd : ∀ q, g'.opq q ≠ g.opq q → m q = false) :
    visPartiallyOccluded g' p = .ok m := by
  obtain ⟨hy, hq⟩ := (visPartiallyOccluded_ok_iff g p m).mp hm
  refine (visPartiallyOccluded_ok_iff g' p m).mpr ⟨hs.1 ▸ hy, fun q => ?_⟩
  -- a cell reachable in `g` is shown, so as opaque in `g'` as in `g`
  rw [hq q, funext hs.contains,
    Reach.congr (fun c hc => agree_of_shown hd c ((hq c).mpr (Or.inl hc))),
    Reach.congr (fun c hc => agree_of_shown hd c ((hq c).mpr (Or.inr hc)))]

/-- ray tracing over any fan: opacity differing only at invisible cells leaves the mask unchanged -/
theorem C06_rt_noninterference (g g' : Grid) (rays : List Ray)
    (hd : ∀ q, g'.opq q ≠ g.opq q → visRaytracing g rays q = false) :
    visRaytracing g' rays = visRaytracing g rays := by
  have hmarks : ∀ r ∈ rays, rayMarks g' true r = rayMarks g true r := fun r hr =>
    rayMarks_congr g g' true r fun q hq hmem =>
      hq (agree_of_shown hd q ((visRaytracing_iff g rays q).mpr ⟨r, hr, hmem⟩))
  funext q
  rw [Bool.eq_iff_iff, visRaytracing_iff, visRaytracing_iff]
  exact exists_congr fun r => and_congr_right fun hr => by rw [hmarks r hr]

theorem applyMask_congr {g g' : Grid} (hs : SameShape g g') (m : Mask)
    (h : ∀ q, g'.at q ≠ g.at q → m q = false) : applyMask g' m = applyMask g m := by
  unfold applyMask
  rw [← hs.1, ← hs.2]
  refine Grid.tab_congr _ _ _ _ fun i j hi hj => ?_
  split
  · rename_i hm
    rw [← Grid.at_natCast g' i j (hs.1 ▸ hi) (hs.2 ▸ hj), ← Grid.at_natCast g i j hi hj]
    exact agree_of_shown h _ hm
  · rfl

/-- a visibility function is non-interfering when changing view cells it reports invisible (in a
way that keeps the shape) neither changes its verdict on any cell nor makes it fail -/
def NonInterfering (V : Grid → Pos → Except PyErr Mask) : Prop :=
  ∀ g g' p m, SameShape g g' → V g p = .ok m → (∀ q, g'.at q ≠ g.at q → m q = false) → V g' p = .ok m

theorem C06_po_nonInterfering : NonInterfering visPartiallyOccluded :=
  fun g g' p m hs hm hd =>
    C06_po_noninterference g g' p hs m hm fun q hq => hd q (mt (congrArg Obj.blocksVision) hq)

theorem C06_rt_nonInterfering (rays : List Ray) : NonInterfering (visRaytracingChecked rays) := by
  intro g g' p m hs hm hd
  obtain ⟨hc, rfl⟩ := (visRaytracingChecked_ok_iff rays g p m).mp hm
  refine (visRaytracingChecked_ok_iff rays g' p _).mpr ⟨(hs.contains p).trans hc, ?_⟩
  exact (C06_rt_noninterference g g' rays fun q hq => hd q (mt (congrArg Obj.blocksVision) hq)).symm

/-- Observation level: two states with the same agent whose grids differ, among the world cells the
view shows, only at cells that the observation of the first masks out have the same observation.
(Nothing is asked of the cells outside the view, nor of the shapes of the two grids: a cell outside
a grid reads as Hidden.) -/
theorem C06_obs_noninterference (V : Grid → Pos → Except PyErr Mask) (hV : NonInterfering V)
    (s s' : State) (a : Area) (ha : a.WF) (hag : s'.agent = s.agent)
    (g0 : Grid) (m : Mask) (hpre : g0 = premask s a) (hm : V g0 (povPos a) = .ok m)
    (hd : ∀ i j, i < a.height → j < a.width →
      s'.grid.at (viewWorld s a i j) ≠ s.grid.at (viewWorld s a i j) → m ⟨i, j⟩ = false) :
    fromVisibility V s' a = fromVisibility V s a := by
  subst hpre
  obtain ⟨g', ag'⟩ := s'
  subst hag
  have hs : SameShape (premask s a) (premask ⟨g', s.agent⟩ a) :=
    ⟨(premask_shape s a).1.trans (premask_shape _ a).1.symm,
      (premask_shape s a).2.trans (premask_shape _ a).2.symm⟩
  -- in the terms of `NonInterfering`: the two pre-mask views differ only where the mask is off
  have hat : ∀ q, (premask ⟨g', s.agent⟩ a).at q ≠ (premask s a).at q → m q = false := by
    rw [premask_eq_tab s a ha, premask_eq_tab _ a ha]
    intro q hq
    rw [Grid.at_tab, Grid.at_tab] at hq
    split at hq
    · rename_i hc
      obtain ⟨h1, h2, h3, h4⟩ := hc
      have := hd q.y.toNat q.x.toNat (by omega) (by omega) hq
      rwa [Int.toNat_of_nonneg h1, Int.toNat_of_nonneg h3] at this
    · exact absurd rfl hq
  rw [fromVisibility_eq, fromVisibility_eq, hm, hV _ _ _ _ hs hm hat]
  simp only [Except.map, applyMask_congr hs m hat]

/-! ### the agent's own cell is visible -/

theorem C06_po_self_visible (g : Grid) (p : Pos) (hp : g.contains p = true) (m : Mask)
    (hm : visPartiallyOccluded g p = .ok m) : m p = true :=
  (C06_po_visible_iff g p m hm p).mpr (Or.inl (Reach.origin hp))

/-- for rays: as soon as some ray of the fan starts at the origin (C19: all of them do) -/
theorem C06_rt_self_visible (g : Grid) (p : Pos) (rays : List Ray)
    (h : ∃ r ∈ rays, r.head? = some p) : visRaytracing g rays p = true := by
  obtain ⟨r, hr, hhead⟩ := h
  exact visRaytracing_head g rays r hr p hhead

/-! ### visibility means an unbroken chain of transparent visible cells from the agent -/

theorem poNext_adjacent (p n : Pos) (h : n ∈ poNextLeft p ∨ n ∈ poNextRight p) :
    (p.y - n.y).natAbs ≤ 1 ∧ (p.x - n.x).natAbs ≤ 1 ∧ n ≠ p := by
  simp only [poNextLeft, poNextRight, List.mem_cons, List.not_mem_nil, or_false] at h
  rcases h with (rfl | rfl | rfl) | (rfl | rfl | rfl) <;> simp only [ne_eq, Pos.ext_iff'] <;> omega

/-- rays: a visible cell lies on some ray all of whose earlier cells are transparent and visible -/
theorem C06_rt_chain (g : Grid) (rays : List Ray) (q : Pos) (hq : visRaytracing g rays q = true) :
    ∃ r ∈ rays, ∃ k, ∃ hk : k < r.length, r[k] = q ∧
      ∀ j (hj : j < k), (g.at (r[j]'(by omega))).blocksVision = false ∧
        visRaytracing g rays (r[j]'(by omega)) = true := by
  obtain ⟨r, hr, k, hk, ht⟩ := (visRaytracing_iff_clear g rays q).mp hq
  obtain ⟨hk', hq'⟩ := List.getElem?_eq_some_iff.mp hk
  refine ⟨r, hr, k, hk', hq', fun j hj => ?_⟩
  have hjr : j < r.length := Nat.lt_trans hj hk'
  have hjk : r[j] ∈ r.take k := List.mem_take_iff_getElem.mpr ⟨j, Nat.lt_min.mpr ⟨hj, hjr⟩, rfl⟩
  exact ⟨ht _ hjk, (visRaytracing_iff_clear g rays _).mpr ⟨r, hr, j, List.getElem?_eq_getElem _,
    fun x hx => ht x (List.take_subset_take_left r (Nat.le_of_lt hj) hx)⟩⟩

/-! ### monotonicity: making opaque cells transparent never hides a visible cell -/

theorem C06_po_monotone (g g' : Grid) (p : Pos) (hs : SameShape g g')
    (hle : ∀ c, g'.opq c = true → g.opq c = true) (m m' : Mask)
    (hm : visPartiallyOccluded g p = .ok m) (hm' : visPartiallyOccluded g' p = .ok m') (q : Pos)
    (hq : m q = true) : m' q = true := by
  rw [C06_po_visible_iff g p m hm] at hq
  rw [C06_po_visible_iff g' p m' hm', funext hs.contains]
  exact hq.imp (Reach.mono hle) (Reach.mono hle)

theorem C06_rt_monotone (g g' : Grid) (rays : List Ray)
    (hle : ∀ c, g'.opq c = true → g.opq c = true) (q : Pos)
    (hq : visRaytracing g rays q = true) : visRaytracing g' rays q = true := by
  rw [visRaytracing_iff_clear] at hq ⊢
  obtain ⟨r, hr, k, hk, ht⟩ := hq
  refine ⟨r, hr, k, hk, fun p hp => ?_⟩
  cases hb : (g'.at p).blocksVision
  · rfl
  · exact (hle p hb).symm.trans (ht p hp)

/-! ### the stochastic variant -/

/-- shown ⇒ some ray reaches the cell lit (the deterministic view can show it); every ray reaches
it lit ⇒ shown — for every uniform draw `u = m / 2^53 ∈ [0, 1)` and every float quotient `p`
satisfying the IEEE facts `flDivOK` -/
theorem C06_stochastic_bounds (n d : Nat) (p : Prob) (hp : flDivOK n d p = true) (m : Nat)
    (hm : m < 9007199254740992) :
    (shownStochastic m p = true → 0 < n) ∧ (n = d → 0 < d → shownStochastic m p = true) := by
  unfold flDivOK at hp
  simp only [Bool.and_eq_true, bne_iff_ne, ne_eq, beq_iff_eq] at hp
  obtain ⟨hden, hrest⟩ := hp
  simp only [shownStochastic, decide_eq_true_eq]
  constructor
  · -- a zero count has the quotient zero, which no draw is below
    intro hs
    refine Nat.pos_of_ne_zero fun hn => ?_
    subst hn
    rw [if_pos rfl, ite_self] at hrest
    rw [beq_iff_eq.mp hrest] at hs
    omega
  · -- a full count has the quotient one, which every draw is below
    rintro rfl hd
    rw [if_neg (by omega), if_neg (by omega), if_pos rfl] at hrest
    rw [beq_iff_eq.mp hrest, Nat.mul_comm p.den]
    exact Nat.mul_lt_mul_of_pos_right hm (Nat.pos_of_ne_zero hden)

/-- a shown cell of the stochastic view is a cell the deterministic ray-traced view shows -/
theorem C06_stochastic_subset (g : Grid) (rays : List Ray) (q : Pos) (p : Prob) (m : Nat)
    (hm : m < 9007199254740992) (hp : flDivOK (countsNum g rays q) (countsDen rays q) p = true)
    (hs : shownStochastic m p = true) : visRaytracing g rays q = true := by
  have := (C06_stochastic_bounds _ _ p hp m hm).1 hs
  simp only [visRaytracing, decide_eq_true_eq]
  omega

/-- the comparison before the repair (`<=`) showed never-lit cells on a zero draw (findings/F5) -/
example : shownStochasticLe 0 ⟨0, 1⟩ = true ∧ flDivOK 0 3 ⟨0, 1⟩ = true ∧ shownStochastic 0 ⟨0, 1⟩ = false := by
  decide

/-! ### non-vacuity: a wall row hides what is behind it -/
example :
    let g : Grid := ⟨3, 3, [[.floor, .key .red, .floor], [.wall, .wall, .wall], [.floor, .floor, .floor]]⟩
    ∃ m, visPartiallyOccluded g ⟨2, 1⟩ = .ok m ∧ m ⟨2, 1⟩ = true ∧ m ⟨1, 1⟩ = true ∧ m ⟨0, 1⟩ = false := by
  exact ⟨_, rfl, by decide +kernel, by decide +kernel, by decide +kernel⟩

end GV
