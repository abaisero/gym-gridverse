/-
  C14 for the `teleport` layout (continuation of Props/C14.lean).
-/
import GridVerse.Lemmas.Teleport
import GridVerse.Props.C14
namespace GV

theorem onPathA_iff (h w : Int) (q : Pos) :
    onPathA h w q = true ↔ (q.x = 1 ∧ 1 ≤ q.y ∧ q.y ≤ h - 2) ∨ (q.y = h - 2 ∧ 1 ≤ q.x ∧ q.x ≤ w - 2) := by
  simp [onPathA, and_assoc]

theorem onPathB_iff (h w : Int) (q : Pos) :
    onPathB h w q = true ↔ (q.y = 1 ∧ 1 ≤ q.x ∧ q.x ≤ w - 2) ∨ (q.x = w - 2 ∧ 1 ≤ q.y ∧ q.y ≤ h - 2) := by
  simp [onPathB, and_assoc]

/-- the two legs of `lPlan` from the start to a cell of way `A` lie on `A` (in the form `lplan_then` asks for) -/
theorem wayA {h w : Int} {q : Pos} (hh : 3 ≤ h) (hq : onPathA h w q = true) :
    (∀ y, Btw 1 q.y y → onPathA h w ⟨y, 1⟩ = true) ∧ (∀ x, Btw 1 q.x x → onPathA h w ⟨q.y, x⟩ = true) := by
  simp only [onPathA_iff, Btw, true_and] at hq ⊢
  exact ⟨fun y hy => by omega, fun x hx => by omega⟩

/-- the two legs of `lPlanH` from a cell of way `B` to the far corner lie on `B` -/
theorem wayB {h w : Int} {p : Pos} (hh : 3 ≤ h) (hp : onPathB h w p = true) :
    (∀ x, Btw p.x (w - 2) x → onPathB h w ⟨p.y, x⟩ = true) ∧
    (∀ y, Btw p.y (h - 2) y → onPathB h w ⟨y, w - 2⟩ = true) := by
  simp only [onPathB_iff, Btw, true_and] at hp ⊢
  exact ⟨fun x hx => by omega, fun y hy => by omega⟩

theorem tp_not_both {sh : Shape} {t : Pos} (hh : 4 ≤ sh.h) (hw : 4 ≤ sh.w) (ht : TPSpot sh t) (hA : onPathA sh.h sh.w t = true)
    (hB : onPathB sh.h sh.w t = true) : False := by
  rw [onPathA_iff] at hA
  rw [onPathB_iff] at hB
  obtain ⟨_, hne, hn1⟩ := ht
  -- the two ways meet in the start and in the exit only
  have : (t.y = 1 ∧ t.x = 1) ∨ (t.y = sh.h - 2 ∧ t.x = sh.w - 2) := by omega
  rcases this with h | h
  · exact hn1 ((Pos.ext_iff' _ _).mpr h)
  · exact hne ((Pos.ext_iff' _ _).mpr h)

theorem tpCell_kind (sh : Shape) (t1 t2 q : Pos) :
    ((tpCell sh t1 t2 q).isKind .telepod = true → q = t1 ∨ q = t2) ∧
    ((tpCell sh t1 t2 q).isKind .exit = true → q = ⟨sh.h - 2, sh.w - 2⟩) := by
  unfold tpCell
  by_cases c0 : q = t1 ∨ q = t2
  · rw [if_pos c0]; exact ⟨fun _ => c0, nofun⟩
  rw [if_neg c0]
  by_cases c1 : q = ⟨sh.h - 2, sh.w - 2⟩
  · rw [if_pos c1]; exact ⟨nofun, fun _ => c1⟩
  rw [if_neg c1]
  split <;> exact ⟨nofun, nofun⟩

namespace TPRoom
variable {sh : Shape} {t1 t2 : Pos}

theorem symm {g : Grid} (r : TPRoom sh t1 t2 g) : TPRoom sh t2 t1 g :=
  ⟨r.shows.congr fun q _ => by unfold tpCell; simp only [or_comm], r.s2, r.s1, r.ne.symm⟩

theorem pod {g : Grid} (r : TPRoom sh t1 t2 g) :
    g.contains t1 = true ∧ g.at t1 = .telepod .red := by
  have hc := r.s1.1.contains r.shows.gh r.shows.gw
  exact ⟨hc, by rw [r.shows.cell _ hc, tpCell, if_pos (.inl rfl)]⟩

theorem find {g : Grid} (r : TPRoom sh t1 t2 g) (q : Pos) :
    q ∈ g.find (fun o => o.isKind .telepod) ↔ q = t1 ∨ q = t2 := by
  rw [Grid.mem_find]
  constructor
  · rintro ⟨hc, hk⟩
    rw [r.shows.cell q hc] at hk
    exact (tpCell_kind sh t1 t2 q).1 hk
  · rintro (rfl | rfl)
    · exact ⟨r.pod.1, by rw [r.pod.2]; rfl⟩
    · exact ⟨r.symm.pod.1, by rw [r.symm.pod.2]; rfl⟩

theorem all {g : Grid} (r : TPRoom sh t1 t2 g) (P : Pos → Bool) :
    (g.find fun o => o.isKind .telepod).all P = true ↔ P t1 = true ∧ P t2 = true := by
  simp only [List.all_eq_true, r.find, forall_eq_or_imp, forall_eq]

theorem filter {g : Grid} (r : TPRoom sh t1 t2 g) {P : Pos → Bool}
    (h1 : P t1 = true) (h2 : P t2 = false) : (g.find fun o => o.isKind .telepod).filter P = [t1] := by
  refine eq_singleton_of_mem_iff ((Grid.find_nodup _ _).filter _) fun b => ?_
  rw [List.mem_filter, r.find]
  constructor
  · rintro ⟨rfl | rfl, hp⟩
    · rfl
    · rw [h2] at hp; cases hp
  · rintro rfl
    exact ⟨.inl rfl, h1⟩

theorem targets {s : State} (r : TPRoom sh t1 t2 s.grid) :
    teleportTargets (withPos s t1) .red = [t2] := by
  refine eq_singleton_of_mem_iff ((Grid.positions_nodup _).filter _) fun b => ?_
  rw [mem_teleportTargets, withPos_grid, withPos_pos]
  constructor
  · rintro ⟨hc, hne, hk, _⟩
    exact ((r.find b).mp ((Grid.mem_find _ _ _).mpr ⟨hc, hk⟩)).resolve_left hne
  · rintro rfl
    exact ⟨r.symm.pod.1, r.ne.symm, by rw [r.symm.pod.2]; rfl, by rw [r.symm.pod.2]; rfl⟩

theorem exit_in {g : Grid} (r : TPRoom sh t1 t2 g) (hh : 4 ≤ sh.h) (hw : 4 ≤ sh.w) :
    g.contains ⟨sh.h - 2, sh.w - 2⟩ = true ∧ (g.at ⟨sh.h - 2, sh.w - 2⟩).isKind .exit = true := by
  have hi : Interior sh.h.toNat sh.w.toNat ⟨sh.h - 2, sh.w - 2⟩ := by unfold Interior; simp only; omega
  have hin := hi.contains r.shows.gh r.shows.gw
  refine ⟨hin, ?_⟩
  rw [r.shows.cell _ hin, tpCell, if_neg (by rintro (h | h); exact r.s1.2.1 h.symm; exact r.s2.2.1 h.symm), if_pos rfl]; rfl

theorem find_exit {g : Grid} (r : TPRoom sh t1 t2 g) (hh : 4 ≤ sh.h) (hw : 4 ≤ sh.w) :
    firstExit g = ⟨sh.h - 2, sh.w - 2⟩ := by
  refine r.shows.headD_find (r.exit_in hh hw).1 ?_ (fun q _ hk => (tpCell_kind sh t1 t2 q).2 hk) _
  rw [← r.shows.cell _ (r.exit_in hh hw).1]; exact (r.exit_in hh hw).2

theorem one_each {g : Grid} (r : TPRoom sh t1 t2 g) (hh : 4 ≤ sh.h) (hw : 4 ≤ sh.w)
    (hA : ¬ (onPathA sh.h sh.w t1 = false ∧ onPathA sh.h sh.w t2 = false))
    (hB : ¬ (onPathB sh.h sh.w t1 = false ∧ onPathB sh.h sh.w t2 = false)) :
    ∃ tA tB, TPRoom sh tA tB g ∧ onPathA sh.h sh.w tA = true ∧ onPathA sh.h sh.w tB = false ∧
      onPathB sh.h sh.w tA = false ∧ onPathB sh.h sh.w tB = true := by
  -- a telepod on `A` is not on `B`; then the other one is on `B`, hence not on `A`
  have key : ∀ {tA tB : Pos}, TPRoom sh tA tB g → onPathA sh.h sh.w tA = true →
      ¬ (onPathB sh.h sh.w tA = false ∧ onPathB sh.h sh.w tB = false) →
      onPathA sh.h sh.w tB = false ∧ onPathB sh.h sh.w tA = false ∧ onPathB sh.h sh.w tB = true := by
    intro tA tB r' hAA hB'
    have hBA : onPathB sh.h sh.w tA = false := Bool.eq_false_iff.mpr (tp_not_both hh hw r'.s1 hAA)
    have hBB : onPathB sh.h sh.w tB = true := by
      cases h : onPathB sh.h sh.w tB
      · exact absurd ⟨hBA, h⟩ hB'
      · rfl
    exact ⟨Bool.eq_false_iff.mpr fun h => tp_not_both hh hw r'.s2 h hBB, hBA, hBB⟩
  cases a1 : onPathA sh.h sh.w t1
  · cases a2 : onPathA sh.h sh.w t2
    · exact absurd ⟨a1, a2⟩ hA
    · exact ⟨t2, t1, r.symm, a2, key r.symm a2 fun h => hB h.symm⟩
  · exact ⟨t1, t2, r, a1, key r a1 hB⟩

theorem pass {s : State} (r : TPRoom sh t1 t2 s.grid) (hh : 4 ≤ sh.h) (hw : 4 ≤ sh.w)
    {c : Pos} (hc : onPathA sh.h sh.w c = true ∨ onPathB sh.h sh.w c = true) (h1 : c ≠ t1) (h2 : c ≠ t2) :
    Pass [.turnAgent, .teleport] (stopOf .reachExit) goalExit s c := by
  have hi : Interior sh.h.toNat sh.w.toNat c := by
    rw [onPathA_iff, onPathB_iff] at hc
    unfold Interior
    omega
  have hin : s.grid.contains c = true := hi.contains r.shows.gh r.shows.gw
  have hat : s.grid.at c = if c = ⟨sh.h - 2, sh.w - 2⟩ then .exit .none else .floor := by
    rw [r.shows.cell c hin, tpCell, if_neg (by rintro (h | h) <;> contradiction), if_neg hi.not_border]
  refine Free.passExit r.shows.wf ⟨hin, by rw [hat]; split <;> rfl⟩
    ⟨by decide, fun _ => ⟨r.shows.wf, hin, ?_⟩, fun h => absurd h (by decide)⟩
  simp only [withPos_grid, withPos_pos, hat]; split <;> rfl

end TPRoom

theorem teleport_clear_A {sh : Shape} {t1 t2 : Pos} {s : State} (r : TPRoom sh t1 t2 s.grid)
    (hh : 4 ≤ sh.h) (hw : 4 ≤ sh.w) (hpos : s.agent.pos = ⟨1, 1⟩)
    (h1 : onPathA sh.h sh.w t1 = false) (h2 : onPathA sh.h sh.w t2 = false) (d0 : DrawSt) :
    checkPlan tpChain (stopOf .reachExit) goalExit s (lPlan s.agent.o s.agent.pos ⟨sh.h - 2, sh.w - 2⟩) d0 = true := by
  have pass : ∀ c, onPathA sh.h sh.w c = true → Pass [.turnAgent, .teleport] (stopOf .reachExit) goalExit s c :=
    fun c hc => r.pass hh hw (.inl hc) (fun h => by rw [h, h1] at hc; cases hc) (fun h => by rw [h, h2] at hc; cases hc)
  obtain ⟨wv, wh⟩ := wayA (h := sh.h) (w := sh.w) (q := ⟨sh.h - 2, sh.w - 2⟩) (by omega)
    ((onPathA_iff _ _ _).mpr (.inr ⟨rfl, by simp only; omega, Int.le_refl _⟩))
  rw [← List.append_nil (lPlan _ _ _)]
  refine lplan_then [.turnAgent, .teleport] _ _ s ⟨sh.h - 2, sh.w - 2⟩ [] d0 (fun y hy => ?_) (fun x hx => ?_)
    (goalExit_withPos (r.exit_in hh hw).1 (r.exit_in hh hw).2)
  · rw [hpos] at hy ⊢; exact pass _ (wv y hy)
  · rw [hpos] at hx; exact pass _ (wh x hx)

/-- from a cell of way `B`, along `B` to the exit: no telepod lies on `B` except possibly under the agent -/
theorem teleport_along_B {sh : Shape} {t1 t2 : Pos} {s : State} (r : TPRoom sh t1 t2 s.grid)
    (hh : 4 ≤ sh.h) (hw : 4 ≤ sh.w) (hp : onPathB sh.h sh.w s.agent.pos = true)
    (h1 : onPathB sh.h sh.w t1 = true → t1 = s.agent.pos) (h2 : onPathB sh.h sh.w t2 = true → t2 = s.agent.pos)
    (d0 : DrawSt) :
    checkPlan tpChain (stopOf .reachExit) goalExit s (lPlanH s.agent.o s.agent.pos ⟨sh.h - 2, sh.w - 2⟩ ++ []) d0 = true := by
  have pass : ∀ c, onPathB sh.h sh.w c = true → c ≠ s.agent.pos →
      Pass [.turnAgent, .teleport] (stopOf .reachExit) goalExit s c := fun c hc hne =>
    r.pass hh hw (.inr hc) (fun h => hne (h ▸ h1 (h ▸ hc))) (fun h => hne (h ▸ h2 (h ▸ hc)))
  obtain ⟨wh, wv⟩ := wayB (by omega) hp
  refine lplanH_then [.turnAgent, .teleport] _ _ s ⟨sh.h - 2, sh.w - 2⟩ [] d0 (fun x hx => ?_) (fun y hy => ?_)
    (goalExit_withPos (r.exit_in hh hw).1 (r.exit_in hh hw).2)
  · exact pass _ (wh x hx) fun h => hx.ne (congrArg Pos.x h)
  · exact pass _ (wv y hy) fun h => hy.ne (congrArg Pos.y h)

/-- each way holds one telepod: into the one on `A`, out of the one on `B`, along `B` -/
theorem teleport_via {sh : Shape} {tA tB : Pos} {s : State} (r : TPRoom sh tA tB s.grid)
    (hh : 4 ≤ sh.h) (hw : 4 ≤ sh.w) (hpos : s.agent.pos = ⟨1, 1⟩)
    (hAA : onPathA sh.h sh.w tA = true) (hAB : onPathA sh.h sh.w tB = false)
    (hBA : onPathB sh.h sh.w tA = false) (hBB : onPathB sh.h sh.w tB = true) (d0 : DrawSt) :
    checkPlan tpChain (stopOf .reachExit) goalExit s
      (lPlan s.agent.o s.agent.pos tA ++ (lPlanH s.agent.o tB ⟨sh.h - 2, sh.w - 2⟩ ++ [])) d0 = true := by
  have pass : ∀ c, onPathA sh.h sh.w c = true → c ≠ tA →
      Pass [.turnAgent, .teleport] (stopOf .reachExit) goalExit s c := fun c hc hne =>
    r.pass hh hw (.inl hc) hne (fun h => by rw [h, hAB] at hc; cases hc)
  obtain ⟨wv, wh⟩ := wayA (by omega) hAA
  refine lplan_land [.turnAgent, .teleport] _ _ s tA _ d0 (by rw [hpos]; exact r.s1.2.2) (fun y hy hne => ?_)
    (fun x hx hne => ?_) ⟨withPos s tB, (drawChoice 1 d0).2, fun c dir hc => ?_, fun s0 a => Or.inr ?_, ?_⟩
  · rw [hpos] at hy hne ⊢; exact pass _ (wv y hy) hne
  · rw [hpos] at hx; exact pass _ (wh x hx) fun h => hne (congrArg Pos.x h)
  · -- into the telepod on `A`, out of the one on `B`
    have := step_onto_telepod (withPos s c) dir d0 tA tB .red r.shows.wf hc r.pod.1 r.pod.2
      (by simp only [withPos_withPos]; exact r.targets)
    simpa only [withPos_o, withPos_withPos, tpChain] using this
  · exact stop_reachExit_false s0 a (withPos s tB) r.shows.wf r.symm.pod.1
      (by rw [withPos_grid, withPos_pos, r.symm.pod.2]; rfl)
  · exact teleport_along_B (s := withPos s tB) r hh hw hBB (fun h => by rw [hBA] at h; cases h) (fun _ => rfl) _

theorem planTeleport_wins {sh : Shape} {t1 t2 : Pos} {s : State} (r : TPRoom sh t1 t2 s.grid)
    (hh : 4 ≤ sh.h) (hw : 4 ≤ sh.w) (hpos : s.agent.pos = ⟨1, 1⟩) (d0 : DrawSt) :
    checkPlan tpChain (stopOf .reachExit) goalExit s (planTeleport s) d0 = true := by
  have eh : ((s.grid.h : Nat) : Int) = sh.h := by rw [r.shows.gh]; omega
  have ew : ((s.grid.w : Nat) : Int) = sh.w := by rw [r.shows.gw]; omega
  unfold planTeleport
  simp only [eh, ew, r.find_exit hh hw, r.all, Bool.not_eq_true']
  by_cases cA : onPathA sh.h sh.w t1 = false ∧ onPathA sh.h sh.w t2 = false
  · rw [if_pos cA]
    exact teleport_clear_A r hh hw hpos cA.1 cA.2 d0
  rw [if_neg cA]
  by_cases cB : onPathB sh.h sh.w t1 = false ∧ onPathB sh.h sh.w t2 = false
  · rw [if_pos cB, ← List.append_nil (lPlanH _ _ _)]
    refine teleport_along_B r hh hw ?_ (fun h => by rw [cB.1] at h; cases h) (fun h => by rw [cB.2] at h; cases h) d0
    rw [hpos, onPathB_iff]
    exact .inl ⟨rfl, Int.le_refl _, by simp only; omega⟩
  rw [if_neg cB]
  obtain ⟨tA, tB, r', hAA, hAB, hBA, hBB⟩ := r.one_each hh hw cA cB
  rw [r'.filter hAA hAB, List.headD_cons, r'.symm.filter (P := fun t => t != tA) (by simpa using r'.ne.symm) (by simp),
    List.headD_cons]
  exact teleport_via r' hh hw hpos hAA hAB hBA hBB d0

/-- **C14 (`teleport`).**  For every valid shape and every stream of draws, under the shipped
dynamics `[move_agent, turn_agent, teleport]`: `planTeleport` wins — along a way without telepods
if there is one, otherwise through the two telepods. -/
theorem C14_teleport (sh : Shape) (d d0 : DrawSt) (hv : 4 ≤ sh.h ∧ 4 ≤ sh.w) :
    ∃ s d', resetTeleport sh d = .ok (s, d') ∧
      checkPlan tpChain (stopOf .reachExit) goalExit s (planTeleport s) d0 = true := by
  obtain ⟨s, d', t1, t2, he, hpos, _, _, r⟩ := C13_teleport_wf sh d hv
  exact ⟨s, d', he, planTeleport_wins r hv.1 hv.2 hpos d0⟩

end GV
