/-
  C03, continued — the reference-level layer refines the pure layer.

  Props/C03.lean says where the assignments of `transition_with_copy` can land (frames, freshness).
  This file says *what it computes*: reading the result back (`Heap.abs`) gives exactly the state the
  pure transition chain (`runChain`, the function every other property file reasons about) computes
  from the value of the input, with the same draws consumed — for every chain of the seven in-place
  transition functions, every action and every stream of draws.  Together with
  `C03_step_input_unchanged` this is purity in full: the functional step is a function of the input's
  *value*, and that function is the pure model's.

  The proof needs no hypothesis about aliasing inside the *input* state: `fast_copy` (pickle) allocates
  a node of its own for every object (`load_rep`: the copy is a separated representation), and on
  separated representations each in-place function refines its pure counterpart and keeps the
  representation separated (`Lemmas/Refine.lean`; the only in-place change of an object node is the
  door opening, and the door's node occurs once).
-/
import GridVerse.Lemmas.RefineLoad
namespace GV

/-- **the in-place dynamics on a separated heap state compute the pure dynamics** (any chain, any
action, any draws), and keep the state separated -/
theorem C03_inplace_refines (fs : List TransAtom) (hp : Heap) (s : HState) (st : State) (R : Rep hp s st)
    (a : Action) (d : DrawSt) :
    ∃ st' d', runChain fs st a d = .ok (st', d') ∧ Rep (hRunChain fs hp s a d).1 s st' ∧
      (hRunChain fs hp s a d).1.abs s = st' ∧ (hRunChain fs hp s a d).2 = d' := by
  obtain ⟨st', d', h1, h2, h3⟩ := chain_rep fs R a d
  exact ⟨st', d', h1, h2, h2.core.abs, h3⟩

/-- **C03 (refinement of the functional step).**  For every heap and every state in it whose value is
a rectangular grid with the agent inside — whatever the sharing between its nodes —, the state
returned by `transition_with_copy` denotes exactly the pure next state of the input's value, and the
same draws are consumed. -/
theorem C03_step_refines (fs : List TransAtom) (hp : Heap) (s : HState) (a : Action) (d : DrawSt)
    (wf : (hp.abs s).grid.WF) (hin : (hp.abs s).grid.contains (hp.abs s).agent.pos = true) :
    ∃ st' d', runChain fs (hp.abs s) a d = .ok (st', d') ∧
      (hFunctionalStep fs hp s a d).2.1.abs (hFunctionalStep fs hp s a d).1 = st' ∧
      (hFunctionalStep fs hp s a d).2.2 = d' := by
  have R : Rep (hp.fastCopy s).2 (hp.fastCopy s).1 (hp.abs s) := load_rep (hp.abs s) wf hin hp
  obtain ⟨st', d', h1, _, h3, h4⟩ := C03_inplace_refines fs (hp.fastCopy s).2 (hp.fastCopy s).1 (hp.abs s) R a d
  exact ⟨st', d', h1, h3, h4⟩

/-- history independence at the reference level: two heaps, two states of the same value — the two
functional steps return states of the same value (whatever else either heap contains, whatever was
computed before) -/
theorem C03_step_value_only (fs : List TransAtom) (hp1 hp2 : Heap) (s1 s2 : HState) (a : Action) (d : DrawSt)
    (hv : hp1.abs s1 = hp2.abs s2) (wf : (hp1.abs s1).grid.WF)
    (hin : (hp1.abs s1).grid.contains (hp1.abs s1).agent.pos = true) :
    (hFunctionalStep fs hp1 s1 a d).2.1.abs (hFunctionalStep fs hp1 s1 a d).1 =
      (hFunctionalStep fs hp2 s2 a d).2.1.abs (hFunctionalStep fs hp2 s2 a d).1 ∧
    (hFunctionalStep fs hp1 s1 a d).2.2 = (hFunctionalStep fs hp2 s2 a d).2.2 := by
  obtain ⟨st1, d1, e1, a1, b1⟩ := C03_step_refines fs hp1 s1 a d wf hin
  obtain ⟨st2, d2, e2, a2, b2⟩ := C03_step_refines fs hp2 s2 a d (hv ▸ wf) (hv ▸ hin)
  rw [hv, e2] at e1
  injection e1 with e1
  injection e1 with e11 e12
  exact ⟨by rw [a1, a2, e11], by rw [b1, b2, e12]⟩

/-- the hypotheses are met, e.g., by the unpickled copy of any rectangular state with the agent inside:
a 2×2 room with a closed door and a box holding a key, key in hand -/
example :
    let st : State := ⟨⟨2, 2, [[.floor, .door .closed .red], [.box (.key .blue), .wall]]⟩, ⟨⟨0, 0⟩, .R, .key .red⟩⟩
    st.grid.WF ∧ st.grid.contains st.agent.pos = true ∧
    (Heap.empty.load st).2.abs (Heap.empty.load st).1 = st ∧
    Rep (Heap.empty.load st).2 (Heap.empty.load st).1 st := by
  intro st
  have wf : st.grid.WF := (Grid.wfb_iff _).mp rfl
  exact ⟨wf, by decide, load_abs st _, load_rep st wf (by decide) _⟩

end GV
