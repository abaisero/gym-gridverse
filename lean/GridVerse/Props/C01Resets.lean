/-
  C01, base case of every trajectory: the state a reset function returns lies in every state space
  that has the function's shape and declares the object types and colours the function uses.
  Together with `C01_history` (closure of every transition chain) this gives: every state along
  every run of an environment whose space declares what its reset function uses is in the space — in
  particular (Props/C01Shipped.lean, by `decide` on the regenerated shipped configurations) for every
  shipped environment.

  The statements are in the "whatever it returns" form: `reset … = .ok (s, d') → …`, for all
  parameter values and streams (invalid parameters make the premise false: `C13_*_rejects`).
-/
import GridVerse.Props.C01
import GridVerse.Props.C13MemoryRooms
import GridVerse.Props.C13Crossing
namespace GV

/-- every cell holds an object of one of the kinds `ks`, coloured `NONE` or one of `cs`; the agent is
inside and empty-handed -/
structure Uses (ks : List Kind) (cs : List Color) (h w : Nat) (s : State) : Prop where
  wf : s.grid.WF
  gh : s.grid.h = h
  gw : s.grid.w = w
  cells : ∀ q, s.grid.contains q = true → (s.grid.at q).kind ∈ ks ∧ ((s.grid.at q).color = .none ∨ (s.grid.at q).color ∈ cs)
  pos : s.grid.contains s.agent.pos = true
  held : s.agent.held = .noneObj

theorem Uses.mono {ks ks' : List Kind} {cs cs' : List Color} {h w : Nat} {s : State} (u : Uses ks cs h w s)
    (hk : ∀ k ∈ ks, k ∈ ks') (hc : ∀ c ∈ cs, c ∈ cs') : Uses ks' cs' h w s :=
  ⟨u.wf, u.gh, u.gw, fun q hq => ⟨hk _ (u.cells q hq).1, (u.cells q hq).2.imp id (hc _)⟩, u.pos, u.held⟩

/-- … hence it conforms to every space of that shape declaring those kinds and colours -/
theorem Uses.conf {ks : List Kind} {cs : List Color} {s : State} (sp : StateSpace) (deep : Bool)
    (u : Uses ks cs sp.h sp.w s) (hk : ∀ k ∈ ks, k ∈ sp.kinds) (hc : ∀ c ∈ cs, c ∈ sp.colors)
    (hbox : Kind.box ∉ ks) : Conf sp deep s := by
  refine ⟨u.wf, u.gh, u.gw, ?_, u.pos, Or.inl u.held⟩
  intro q hq
  obtain ⟨h1, h2⟩ := u.cells q hq
  have hcol : colorOk sp.colors (s.grid.at q).color = true := (colorOk_iff _ _).mpr (h2.imp id (hc _))
  cases ho : s.grid.at q with
  | box c => rw [ho] at h1; exact absurd h1 hbox
  | _ =>
    rw [ho] at h1 hcol
    simp only [okObj, Bool.and_eq_true, List.contains_eq_mem, decide_eq_true_eq]
    exact ⟨hk _ h1, hcol⟩

/-- what `Uses` asks of the object in a cell -/
def Obj.Declared (ks : List Kind) (cs : List Color) (o : Obj) : Prop :=
  o.kind ∈ ks ∧ (o.color = .none ∨ o.color ∈ cs)

/-- the reset theorems describe a cell by a chain of conditionals: it is enough to look at the branches -/
theorem Obj.Declared.ite {ks : List Kind} {cs : List Color} {c : Prop} [Decidable c] {a b : Obj}
    (ha : a.Declared ks cs) (hb : b.Declared ks cs) : (if c then a else b).Declared ks cs := by
  split <;> assumption

theorem Uses.of_shows {ks : List Kind} {cs : List Color} {h w : Nat} {s : State} {f : Pos → Obj}
    (sg : s.grid.Shows h w f) (hf : ∀ q, (f q).Declared ks cs) (pos : s.grid.contains s.agent.pos = true)
    (held : s.agent.held = .noneObj) : Uses ks cs h w s :=
  ⟨sg.wf, sg.gh, sg.gw, fun q hq => sg.cell q hq ▸ hf q, pos, held⟩

theorem interior_contains {h w : Nat} {q : Pos} {g : Grid} (hq : Interior h w q) (gh : g.h = h) (gw : g.w = w) :
    g.contains q = true := hq.contains gh gw

/-- a call that returned was not rejected: the way from the "whatever it returns" form of the statements
below to the hypotheses of the `C13_*_wf` theorems -/
theorem valid_of_ok {α} {x : Except PyErr α} {a : α} {V : Prop} (he : x = .ok a)
    (rej : ¬ V → x = .error .valueError) : V :=
  Classical.byContradiction fun hv => by rw [rej hv] at he; cases he

theorem empty_uses (sh : Shape) (ra re : Bool) (d : DrawSt) (s : State) (d' : DrawSt)
    (he : resetEmpty sh ra re d = .ok (s, d')) : Uses [.wall, .floor, .exit] [] sh.h.toNat sh.w.toNat s := by
  have hv := valid_of_ok he (C13_empty_rejects sh ra re d)
  obtain ⟨s1, d1, e1, ep, _, room, hin, _, hheld, _, _⟩ := C13_empty_wf sh ra re d hv
  cases e1.symm.trans he
  refine .of_shows room (fun q => ?_) (hin.contains room.gh room.gw) hheld
  exact Obj.Declared.ite ⟨by decide, .inl rfl⟩ (.ite ⟨by decide, .inl rfl⟩ ⟨by decide, .inl rfl⟩)

theorem dynamicObstacles_uses (sh : Shape) (n : Int) (ra : Bool) (d : DrawSt) (s : State) (d' : DrawSt)
    (he : resetDynamicObstacles sh n ra d = .ok (s, d')) :
    Uses [.wall, .floor, .exit, .obstacle] [] sh.h.toNat sh.w.toNat s := by
  have hv := valid_of_ok he (C13_dynamic_obstacles_rejects_small sh n ra d)
  obtain ⟨s0, d0, e0, hok, hbad⟩ := C13_dynamic_obstacles sh n ra d hv
  have u0 := (empty_uses sh ra false d s0 d0 e0).mono (ks' := [.wall, .floor, .exit, .obstacle]) (cs' := [])
    (by simp +contextual) (by simp)
  obtain ⟨s1, d1, obs, e1, hag, _, _, _, wf, gh, gw, hat⟩ := hok (valid_of_ok he hbad)
  cases e1.symm.trans he
  have hc := Grid.contains_congr gh gw
  refine ⟨wf, gh.trans u0.gh, gw.trans u0.gw, fun q hq => ?_, by rw [hag, hc]; exact u0.pos,
    by rw [hag]; exact u0.held⟩
  rw [hat q]
  exact Obj.Declared.ite ⟨by decide, .inl rfl⟩ (u0.cells q ((hc q).symm.trans hq))

theorem teleport_uses (sh : Shape) (d : DrawSt) (s : State) (d' : DrawSt)
    (he : resetTeleport sh d = .ok (s, d')) :
    Uses [.wall, .floor, .exit, .telepod] [.red] sh.h.toNat sh.w.toNat s := by
  have hv := valid_of_ok he (C13_teleport_rejects sh d)
  obtain ⟨s1, d1, t1, t2, e1, hpos, _, hheld, r⟩ := C13_teleport_wf sh d hv
  cases e1.symm.trans he
  refine .of_shows r.shows (fun q => ?_) ?_ hheld
  · exact Obj.Declared.ite ⟨by decide, .inr (by decide)⟩ (.ite ⟨by decide, .inl rfl⟩
      (.ite ⟨by decide, .inl rfl⟩ ⟨by decide, .inl rfl⟩))
  · rw [hpos]; exact Grid.contains_inner r.shows.gh r.shows.gw (Int.le_refl 1) (by omega) (Int.le_refl 1) (by omega)

theorem keydoor_uses (sh : Shape) (d : DrawSt) (s : State) (d' : DrawSt)
    (he : resetKeydoor sh d = .ok (s, d')) :
    Uses [.wall, .floor, .exit, .key, .door] [.yellow] sh.h.toNat sh.w.toNat s := by
  have hv := valid_of_ok he (C13_keydoor_rejects sh d)
  obtain ⟨s1, d1, xw, yd, yk, xk, e1, _, hxw, _, _, _, ⟨hya1, hya2, hxa1, hxa2⟩, hheld, k⟩ := C13_keydoor_wf sh d hv
  cases e1.symm.trans he
  refine .of_shows k.shows (fun q => ?_) ?_ hheld
  · exact Obj.Declared.ite ⟨by decide, .inr (by decide)⟩ (.ite ⟨by decide, .inr (by decide)⟩
      (.ite ⟨by decide, .inl rfl⟩ (.ite ⟨by decide, .inl rfl⟩ (.ite ⟨by decide, .inl rfl⟩ ⟨by decide, .inl rfl⟩))))
  · exact Grid.contains_shape k.gh k.gw (by omega) (by omega) (by omega) (by omega)

theorem memory_uses (sh : Shape) (colors : List Color) (d : DrawSt) (hnd : colors.Nodup) (s : State) (d' : DrawSt)
    (he : resetMemory sh colors d = .ok (s, d')) :
    Uses [.wall, .floor, .exit, .beacon] colors sh.h.toNat sh.w.toNat s := by
  have hv := valid_of_ok he (C13_memory_rejects sh colors d)
  obtain ⟨s1, d1, good, bad, xg, xb, e1, hg, hb, _, _, hag, hfl, sg⟩ := C13_memory_wf sh colors d hv hnd
  cases e1.symm.trans he
  refine .of_shows sg (fun q => ?_) (hfl.contains hv.1 hv.2.1 sg.gh sg.gw) (by rw [hag])
  exact Obj.Declared.ite ⟨show Kind.beacon ∈ _ by decide, .inr hg⟩ (.ite ⟨show Kind.beacon ∈ _ by decide, .inr hg⟩
    (.ite ⟨show Kind.exit ∈ _ by decide, .inr hb⟩ (.ite ⟨show Kind.exit ∈ _ by decide, .inr hg⟩
      (.ite ⟨by decide, .inl rfl⟩ ⟨by decide, .inl rfl⟩))))

/-- `rooms` (at least four rows; split vectors with numpy's end points that the code's own check accepts: `SplitsOK`) -/
theorem rooms_uses (sh : Shape) (lh lw : Int) (ys xs : List Int) (d : DrawSt)
    (hv : 4 ≤ sh.h ∧ 3 ≤ sh.w) (sy : SplitsOK sh.h ys) (sx : SplitsOK sh.w xs) (s : State) (d' : DrawSt)
    (he : resetRooms sh lh lw ys xs d = .ok (s, d')) :
    Uses [.wall, .floor, .exit] [] sh.h.toNat sh.w.toNat s := by
  have hl : 1 ≤ lh ∧ 1 ≤ lw := valid_of_ok he fun h => C13_rooms_rejects sh lh lw ys xs d (by omega)
  obtain ⟨s1, d1, ep, e1, wf, gh, gw, _, hk, _, _, hpos, _, hheld⟩ := C13_rooms_wf sh lh lw ys xs d hv hl sy sx
  cases e1.symm.trans he
  refine ⟨wf, gh, gw, ?_, hpos, hheld⟩
  intro q hq
  rcases hk q hq with h | h | ⟨_, h⟩ <;> simp [h, Obj.kind, Obj.color]

/-- `crossing` with wall rivers (what every shipped configuration uses) -/
theorem crossing_uses (sh : Shape) (n : Int) (d : DrawSt) (s : State) (d' : DrawSt)
    (he : resetCrossing sh n .wall d = .ok (s, d')) :
    Uses [.wall, .floor, .exit] [] sh.h.toNat sh.w.toNat s := by
  have hv : 5 ≤ sh.h ∧ sh.h % 2 = 1 ∧ 5 ≤ sh.w ∧ sh.w % 2 = 1 ∧ 0 < n :=
    valid_of_ok he fun h => C13_crossing_rejects sh n .wall d (by omega)
  obtain ⟨s1, d1, e1, wf, gh, gw, hag, _, _, hex, hk⟩ := C13_crossing_wf sh n d hv
  cases e1.symm.trans he
  refine ⟨wf, gh, gw, ?_, ?_, by rw [hag]⟩
  · intro q hq
    by_cases hq2 : q = ⟨sh.h - 2, sh.w - 2⟩
    · rw [hq2, hex]; simp [Obj.kind, Obj.color]
    · rcases hk q hq hq2 with h | h <;> simp [h, Obj.kind, Obj.color]
  · rw [hag]; exact Grid.contains_inner gh gw (Int.le_refl 1) (by omega) (Int.le_refl 1) (by omega)

/-- `memory_rooms` (split vectors as for `rooms`; colours given without repetition) -/
theorem memoryRooms_uses (sh : Shape) (lh lw : Int) (ys xs : List Int) (colors : List Color) (nb ne : Int)
    (d : DrawSt) (sy : SplitsOK sh.h ys) (sx : SplitsOK sh.w xs)
    (hcn : colors.Nodup) (s : State) (d' : DrawSt)
    (he : resetMemoryRooms sh lh lw ys xs colors nb ne d = .ok (s, d')) :
    Uses [.wall, .floor, .exit, .beacon] colors sh.h.toNat sh.w.toNat s := by
  have hp := valid_of_ok he (C13_memory_rooms_rejects_params sh lh lw ys xs colors nb ne d)
  have hl : 1 ≤ lh ∧ 1 ≤ lw := valid_of_ok he fun h =>
    C13_memory_rooms_rejects_grid sh lh lw ys xs colors nb ne d _ hp (roomsGrid_rejects sh lh lw ys xs d (by omega))
  obtain ⟨g, d1, eg, rg, hok, hrej⟩ := C13_memory_rooms_summary sh lh lw ys xs colors nb ne d hl sy sx hp hcn
  obtain ⟨s1, d1', exits, good, e1, wf, gh, gw, hpos, _, hheld, _, _, _, _, hcells, _, hgoodc, hexc⟩ :=
    hok (valid_of_ok he hrej)
  cases e1.symm.trans he
  refine ⟨wf, gh, gw, ?_, hpos, hheld⟩
  intro q hq
  have hc0 : g.contains q = true := (Grid.contains_congr (gh.trans rg.gh.symm) (gw.trans rg.gw.symm) q).symm.trans hq
  rcases hcells q hq with ⟨c, hmem, hat⟩ | hat | ⟨hat, _⟩
  · rw [hat]
    exact ⟨by simp [Obj.kind], Or.inr (hexc (q, c) hmem)⟩
  · rw [hat]
    exact ⟨by simp [Obj.kind], Or.inr hgoodc⟩
  · rcases rg.kinds q hc0 with h | h <;> simp [hat, h, Obj.kind, Obj.color]

end GV
