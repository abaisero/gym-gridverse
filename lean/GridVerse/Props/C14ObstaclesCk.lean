/-
  The kernel's re-run of the `dynamic_obstacles` certificate tables on the sparse game, and that each
  table lists exactly the index vectors the reset can pick.  Over the model alone (Lemmas/ObstacleGame
  and the certificate tables, which are static data), so that a change of a table regenerated from /repo
  (`Generated/`) never triggers the re-run; what the facts mean
  for the model is Props/C14Obstacles.lean.
-/
import GridVerse.Lemmas.ObstacleGame
import GridVerse.Props.C14ObstaclesData
namespace GV

theorem certs5_ok : Cert.obstacles5x5.all (roomCertOK 5 5) = true := by decide +kernel

theorem certs5_keys : Cert.obstacles5x5.map (·.1) = (List.range 7).map fun i => [i] := by decide +kernel

theorem certs7_ok : Cert.obstacles7x7.all (roomCertOK 7 7) = true := by decide +kernel

theorem certs7_keys : Cert.obstacles7x7.map (·.1) =
    (List.range 23).flatMap fun i => ((List.range 23).filter (· != i)).map fun j => [i, j] := by
  decide +kernel

end GV
