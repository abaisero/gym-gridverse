/-
  C03 — The functional interface is pure, alias-free and history-independent.

  "The functional step, observation, reward and termination computations never modify the states
  passed to them, and a returned next state shares no mutable component with its input state, so
  that changing either afterwards cannot affect the other. They are history-independent: asking the
  same deterministic question again, after any other calls on any environment, gives an equal
  answer, and a copied state equals and hashes like its original."

  Immutable values cannot express "modifies its argument", so this file works on the reference
  level model (`Model/Heap.lean`): every Python object that can be assigned through — the outer
  list of a grid, each row list, each GridObject instance, the Agent, its Transform — is a node with
  an identity; the seven in-place transition functions are transcribed as heap updates and every
  assignment is logged.  The theorems say where assignments can land.

  * `transition_with_copy` (what `functional_step` runs): every node that existed before the call
    holds the same contents afterwards, every assignment lands in a node allocated by the call, and
    the next state consists only of such nodes (so it has no node in common with the input state,
    nor with anything else that existed).
  * `from_visibility` (every observation function): assignments only into the new containers.
  * reward and termination functions have no heap effect in the model at all (they are functions of
    the denoted values); that the code's do not assign is the correspondence's part (deep snapshots
    around every call, identity graph of the result).
  * history independence: in the model the functional-interface computations are functions of their
    arguments by construction (that the stateful interface computes the same ones is
    `C04_step_is_functional` etc.; that the code's keep no state is the history correspondence's part),
    and a memo table over a function never changes an answer
    (`C03_memo_transparent`, any history of queries with eviction).
  * copy: `loads (dumps s)` denotes the same value as `s` (`C03_copy_equal`); `__eq__`/`__hash__`
    are functions of that value (`Obj.pyEq`, `Obj.hashKey`).
-/
import GridVerse.Lemmas.RefineLoad
import GridVerse.Props.C19
namespace GV

/-- a set of references containing everything `s` is made of, closed under box content -/
structure Within (S : Ref → Prop) (hp : Heap) (s : HState) : Prop where
  outer : S s.outer
  agent : S s.agent
  rows : ∀ row ∈ hp.rowsOf s.outer, S row ∧ ∀ c ∈ hp.cellsOf row, S c
  tf : S (hp.agentOf s.agent).1
  held : S (hp.agentOf s.agent).2
  closed : ∀ r, S r → ∀ c, (hp.objOf r).content = some c → S c

structure AgreeOn (S : Ref → Prop) (h h' : Heap) : Prop where
  rows : ∀ r, S r → h'.rowsOf r = h.rowsOf r
  cells : ∀ r, S r → h'.cellsOf r = h.cellsOf r
  obj : ∀ r, S r → h'.objOf r = h.objOf r
  tf : ∀ r, S r → h'.tfOf r = h.tfOf r
  agent : ∀ r, S r → h'.agentOf r = h.agentOf r

theorem absObj_congr {S : Ref → Prop} {h h' : Heap} (ag : AgreeOn S h h')
    (hcl : ∀ r, S r → ∀ c, (h.objOf r).content = some c → S c) (fuel : Nat) (r : Ref) (hr : S r) :
    h'.absObj fuel r = h.absObj fuel r := by
  induction fuel generalizing r with
  | zero => simp only [Heap.absObj, ag.obj r hr]
  | succ k ih =>
    simp only [Heap.absObj, ag.obj r hr]
    cases ho : (h.objOf r).obj <;> cases hc : (h.objOf r).content <;> simp only []
    rename_i c
    rw [ih c (hcl r hr c hc)]

theorem abs_congr {S : Ref → Prop} {h h' : Heap} {s : HState} (wi : Within S h s) (ag : AgreeOn S h h') :
    h'.abs s = h.abs s := by
  have hobj := fun r hr => absObj_congr ag wi.closed boxFuel r hr
  unfold Heap.abs
  congr 1
  · unfold Heap.absGrid
    rw [ag.rows s.outer wi.outer]
    congr 1
    apply List.map_congr_left
    intro row hrow
    rw [ag.cells row (wi.rows row hrow).1]
    apply List.map_congr_left
    intro c hc
    exact hobj c ((wi.rows row hrow).2 c hc)
  · unfold Heap.absAgent
    rw [ag.agent s.agent wi.agent]
    simp only [ag.tf _ wi.tf, hobj _ wi.held]

/-- an allocated state: all its nodes are below `n` -/
abbrev Below (n : Nat) (hp : Heap) (s : HState) : Prop := Within (· < n) hp s

theorem AgreeBelow.on {n : Nat} {h h' : Heap} (a : AgreeBelow n h h') : AgreeOn (· < n) h h' :=
  ⟨a.rows, a.cells, a.obj, a.tf, a.agent⟩

theorem OwnedFrom.within {n : Nat} {hp : Heap} {s : HState} (o : OwnedFrom n hp s) (hout : n ≤ s.outer) :
    Within (n ≤ ·) hp s :=
  ⟨hout, o.agent, fun row hrow => ⟨(o.rows row hrow).1, (o.rows row hrow).2.2⟩, o.tf, o.held, o.closed⟩

theorem fastCopy_ext (hp : Heap) (s : HState) : Ext hp (hp.fastCopy s).2 :=
  (load_alloc (hp.abs s) hp).ext

theorem fastCopy_owned (hp : Heap) (s : HState) (sh : Shaped hp s) (hc : Closed hp.next hp) :
    OwnedFrom hp.next (hp.fastCopy s).2 (hp.fastCopy s).1 ∧ hp.next ≤ (hp.fastCopy s).1.outer :=
  load_owned (hp.abs s) sh.absGrid_WF hp hc

/-- **C03 (copy).**  `fast_copy(s)` denotes exactly the value `s` denotes — for any heap, with no
assumption on the state (boxes nested to any depth the reader `absObj` reaches) — so the copy
compares equal to and hashes like the original (`__eq__`/`__hash__` are structural: functions of
the denoted value). -/
theorem C03_copy_equal (hp : Heap) (s : HState) : (hp.fastCopy s).2.abs (hp.fastCopy s).1 = hp.abs s :=
  load_abs (hp.abs s) hp

theorem C03_copy_hash (hp : Heap) (s : HState) (p : Pos) :
    (((hp.fastCopy s).2.abs (hp.fastCopy s).1).grid.at p).hashKey = ((hp.abs s).grid.at p).hashKey ∧
    (((hp.fastCopy s).2.abs (hp.fastCopy s).1).grid.at p).pyEq ((hp.abs s).grid.at p) =
      ((hp.abs s).grid.at p).pyEq ((hp.abs s).grid.at p) := by
  rw [C03_copy_equal]; exact ⟨rfl, rfl⟩

/-- the copy itself assigns nothing and leaves every existing node alone (whatever the state:
`fastCopy_ext` needs neither hypothesis) -/
theorem C03_copy_pure (hp : Heap) (s : HState) (sh : Shaped hp s) (hc : Closed hp.next hp) :
    (hp.fastCopy s).2.writes = hp.writes ∧ AgreeBelow hp.next hp (hp.fastCopy s).2 :=
  ⟨(fastCopy_ext hp s).writes, (fastCopy_ext hp s).agree⟩

/-- **C03 (step).**  For any chain of built-in transition functions, any state (boxes with nested
content, held items, doors in any status: whatever the heap holds), any action and any draws,
`transition_with_copy`
1. leaves the contents of every node that existed before the call exactly as they were
   (`AgreeBelow hp.next`): the input state, and every other state or observation alive, is unmodified;
2. assigns only through references it allocated itself (`writes`);
3. returns a state made only of nodes it allocated (`OwnedFrom hp.next`): next state and input state
   have no node in common. -/
theorem C03_step_pure (fs : List TransAtom) (hp : Heap) (s : HState) (a : Action) (d : DrawSt)
    (sh : Shaped hp s) (hc : Closed hp.next hp) :
    AgreeBelow hp.next hp (hFunctionalStep fs hp s a d).2.1 ∧
    (∀ w ∈ (hFunctionalStep fs hp s a d).2.1.writes, w ∈ hp.writes ∨ hp.next ≤ w) ∧
    OwnedFrom hp.next (hFunctionalStep fs hp s a d).2.1 (hFunctionalStep fs hp s a d).1 ∧
    hp.next ≤ (hFunctionalStep fs hp s a d).1.outer := by
  obtain ⟨o, hout⟩ := fastCopy_owned hp s sh hc
  have f := chain_frame fs (hp.fastCopy s).2 o a d
  have st := ((fastCopy_ext hp s).toStep (Nat.le_refl _)).trans f.step
  exact ⟨st.agree, st.writes, f.owned, hout⟩

/-- the input state denotes the same value after the call as before (and so does every other
allocated state or observation `t`: the statement is for any `t`) -/
theorem C03_step_input_unchanged (fs : List TransAtom) (hp : Heap) (s : HState) (a : Action) (d : DrawSt)
    (sh : Shaped hp s) (hc : Closed hp.next hp) (t : HState) (ht : Below hp.next hp t) :
    (hFunctionalStep fs hp s a d).2.1.abs t = hp.abs t :=
  abs_congr ht (C03_step_pure fs hp s a d sh hc).1.on

/-- "changing either afterwards cannot affect the other", one direction: whatever is later done
to the nodes of the next state (any heap `h2` that differs from the result only at or above
`hp.next`), the input state still denotes what it did -/
theorem C03_mutating_next_leaves_input (fs : List TransAtom) (hp : Heap) (s : HState) (a : Action) (d : DrawSt)
    (sh : Shaped hp s) (hc : Closed hp.next hp) (hs : Below hp.next hp s) (h2 : Heap)
    (hlater : AgreeBelow hp.next (hFunctionalStep fs hp s a d).2.1 h2) : h2.abs s = hp.abs s :=
  abs_congr hs ((C03_step_pure fs hp s a d sh hc).1.trans hlater).on

/-- the other direction: whatever is later done to nodes that existed before the call (in
particular to the input state), the next state still denotes what it did -/
theorem C03_mutating_input_leaves_next (fs : List TransAtom) (hp : Heap) (s : HState) (a : Action) (d : DrawSt)
    (sh : Shaped hp s) (hc : Closed hp.next hp) (h2 : Heap)
    (hlater : AgreeOn (hp.next ≤ ·) (hFunctionalStep fs hp s a d).2.1 h2) :
    h2.abs (hFunctionalStep fs hp s a d).1 =
      (hFunctionalStep fs hp s a d).2.1.abs (hFunctionalStep fs hp s a d).1 := by
  obtain ⟨_, _, o, hout⟩ := C03_step_pure fs hp s a d sh hc
  exact abs_congr (o.within hout) hlater

theorem ne_of_sep {n a b : Nat} (ha : n ≤ a) (hb : b < n) : a ≠ b := by omega

/-- the two states are separated: no reference is a node of both -/
theorem C03_no_shared_node (fs : List TransAtom) (hp : Heap) (s : HState) (a : Action) (d : DrawSt)
    (sh : Shaped hp s) (hc : Closed hp.next hp) (hs : Below hp.next hp s) :
    let r := hFunctionalStep fs hp s a d
    r.1.outer ≠ s.outer ∧ r.1.agent ≠ s.agent ∧
    (r.2.1.agentOf r.1.agent).1 ≠ (hp.agentOf s.agent).1 ∧
    (r.2.1.agentOf r.1.agent).2 ≠ (hp.agentOf s.agent).2 ∧
    ∀ row' ∈ r.2.1.rowsOf r.1.outer, ∀ row ∈ hp.rowsOf s.outer, row' ≠ row ∧
      ∀ c' ∈ r.2.1.cellsOf row', ∀ c ∈ hp.cellsOf row, c' ≠ c := by
  obtain ⟨_, _, o, hout⟩ := C03_step_pure fs hp s a d sh hc
  refine ⟨ne_of_sep hout hs.outer, ne_of_sep o.agent hs.agent, ne_of_sep o.tf hs.tf, ne_of_sep o.held hs.held, ?_⟩
  intro row' hrow' row hrow
  refine ⟨ne_of_sep (o.rows row' hrow').1 (hs.rows row hrow).1, ?_⟩
  intro c' hc' c hcc
  exact ne_of_sep ((o.rows row' hrow').2.2 c' hc') ((hs.rows row hrow).2 c hcc)

/-- without the copy the claim is false, and the model can say so: running `pickndrop` in place on
a state assigns through the state's own nodes (the theorem above is about the copy, not about how
the model was built) -/
example :
    let st : State := ⟨⟨3, 3, [[.wall, .wall, .wall], [.wall, .key .red, .wall], [.wall, .floor, .wall]]⟩,
      ⟨⟨2, 1⟩, .F, .noneObj⟩⟩
    let hp0 : Heap := ⟨0, fun _ => [], fun _ => [], fun _ => default, fun _ => default, fun _ => (0, 0), []⟩
    let l := hp0.load st
    (hRunAtom .pickndrop l.2 l.1 .pickNDrop ⟨[], []⟩).1.writes.length = 2 ∧
    (hRunAtom .pickndrop l.2 l.1 .pickNDrop ⟨[], []⟩).1.writes.all (· < l.2.next) = true := by
  decide +kernel

/-- the hypotheses of the step theorems are met by every state built by `loads` on the empty heap,
e.g. this one with a box holding a key and a held item; and the step really runs (the agent picks
the box content up after opening it) -/
example :
    let st : State := ⟨⟨3, 3, [[.wall, .wall, .wall], [.wall, .box (.key .red), .wall], [.wall, .floor, .wall]]⟩,
      ⟨⟨2, 1⟩, .F, .key .blue⟩⟩
    let hp0 : Heap := ⟨0, fun _ => [], fun _ => [], fun _ => default, fun _ => default, fun _ => (0, 0), []⟩
    let l := hp0.load st
    let r := hFunctionalStep [.actuateBox, .moveAgent] l.2 l.1 .actuate ⟨[], []⟩
    l.2.abs l.1 = st ∧ r.2.1.abs l.1 = st ∧ r.2.1.writes.all (l.2.next ≤ ·) = true ∧ r.2.1.writes.length = 1 ∧
    (r.2.1.abs r.1).grid.at ⟨1, 1⟩ = .key .red := by
  decide +kernel

/-- every state unpickled onto a heap whose unallocated part is empty (e.g. the empty heap) meets
the premises `Shaped` and `Closed` of the step theorems -/
theorem C03_premises_of_load (st : State) (hwf : ∀ row ∈ st.grid.cells, row.length = st.grid.w)
    (hh : st.grid.cells.length = st.grid.h) (h : Heap) (c : Clean h) :
    Shaped (h.load st).2 (h.load st).1 ∧ Closed (h.load st).2.next (h.load st).2 :=
  ⟨load_shaped st ⟨hh, hwf⟩ h, ((load_alloc st h).clean c).closed⟩

/-- and the premise `Below` (every node allocated) on a concrete instance -/
example :
    let st : State := ⟨⟨2, 2, [[.wall, .box (.key .red)], [.door .locked .red, .floor]]⟩, ⟨⟨1, 1⟩, .F, .key .blue⟩⟩
    let l := Heap.empty.load st
    Below l.2.next l.2 l.1 := by
  intro st l
  refine ⟨by decide, by decide, by decide, by decide, by decide, ?_⟩
  intro r hr c hc
  have key : ∀ r, r < l.2.next → (match (l.2.objOf r).content with | some c => decide (c < l.2.next) | none => true) = true := by
    decide +kernel
  have := key r hr
  rw [hc] at this
  exact of_decide_eq_true this

/-- **C03 (observation).**  `from_visibility` — the common tail of every observation function —
leaves every existing node as it was and assigns only into the containers it built: the state it
was given (and everything else) is unmodified, although the observation's visible cells *are* the
state's objects. -/
theorem C03_observation_pure (hp : Heap) (s : HState) (a : Area) (m : Mask) :
    AgreeBelow hp.next hp (hFromVisibility hp s a m).2 ∧
    (∀ w ∈ (hFromVisibility hp s a m).2.writes, w ∈ hp.writes ∨ hp.next ≤ w) := by
  unfold hFromVisibility
  simp only []
  -- of the cell table only the number of rows matters
  generalize hrows : hp.buildRows _ = rows
  obtain ⟨e1, len1, all1⟩ := buildRows_spec _ hp
  rw [hrows, List.length_map, List.length_range] at len1
  rw [hrows] at e1 all1
  -- the outer list, the transform and the agent are allocated on top; only the first touches `rowsOf`
  generalize hag : Heap.newAgent _ _ = ag
  have e2 : Ext rows.2 ag.2 := hag ▸ (ext_newRows rows.2 rows.1).trans ((ext_newTf _ _).trans (ext_newAgent _ _))
  have hrowsOf : ag.2.rowsOf rows.2.next = rows.1 := by rw [← hag]; exact if_pos rfl
  have eAll := e1.trans e2
  have := (eAll.toStep (Nat.le_refl _)).trans
    (hideCells_step (o := ⟨rows.2.next, ag.1, a.height, a.width⟩) m _ (fun _ => mem_rowMajor) ag.2 eAll.next
      ((congrArg List.length hrowsOf).trans len1) (by rw [hrowsOf]; exact all1))
  exact ⟨this.agree, this.writes⟩

theorem C03_observation_input_unchanged (hp : Heap) (s : HState) (a : Area) (m : Mask) (t : HState)
    (ht : Below hp.next hp t) : (hFromVisibility hp s a m).2.abs t = hp.abs t :=
  abs_congr ht (C03_observation_pure hp s a m).1.on

/-- the shortest-path table (`dijkstra`, `lru_cache`) and the ray fans
(`cached_compute_rays_fancy`): whatever was asked before, in any order, with eviction, every answer
is the underlying function's -/
theorem C03_memo_transparent {K V} [BEq K] [LawfulBEq K] (f : K → V) (maxsize : Nat) (history ks : List K) :
    (Memo.run f maxsize (Memo.run f maxsize ⟨[]⟩ history).2 ks).1 = ks.map f :=
  (Memo.run_sound f maxsize _ (Memo.run_sound f maxsize _ (C19_memo_empty_sound f) history).2 ks).1

end GV
