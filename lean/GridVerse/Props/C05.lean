/-
  C05 — Observations are sound: they never show anything that is not there.

  "For every state, view area and built-in observation function, each cell of the observation is
  either Hidden or is exactly the object at the world cell obtained by placing the view area at the
  agent's pose, and cells falling outside the grid are Hidden. The observation has the view area's
  shape, places the agent at the view's anchor cell facing forward and reports the held item
  unchanged; with the fully transparent function every in-grid cell of the view is shown."

  The theorems hold for *any* visibility function `V` (so for all four built-ins and every random
  outcome of the stochastic one): `from_visibility` is slice → rotate → mask, whatever the mask.
-/
import GridVerse.Lemmas.Premask
import GridVerse.Agree.Orient
import GridVerse.Agree.GridRot
namespace GV

theorem C05_shape (V : Grid → Pos → Except PyErr Mask) (s : State) (a : Area) (ha : a.WF) (o : Obs)
    (h : fromVisibility V s a = .ok o) :
    o.grid.h = a.height ∧ o.grid.w = a.width ∧ o.grid.WF := by
  obtain ⟨m, -, rfl⟩ := fromVisibility_ok h
  rw [applyMask_premask s a ha]
  exact ⟨rfl, rfl, Grid.tab_WF _ _ _⟩

/-- each observation cell is Hidden, or the world object at the cell the view places there -/
theorem C05_cell (V : Grid → Pos → Except PyErr Mask) (s : State) (a : Area) (ha : a.WF) (o : Obs)
    (h : fromVisibility V s a = .ok o) (i j : Nat) (hi : i < a.height) (hj : j < a.width) :
    o.grid.cell i j = .hidden ∨
    (s.grid.contains (viewWorld s a i j) = true ∧ o.grid.cell i j = s.grid.at (viewWorld s a i j)) := by
  obtain ⟨m, -, rfl⟩ := fromVisibility_ok h
  rw [applyMask_premask s a ha, Grid.cell_tab _ _ _ _ _ hi hj]
  split
  · cases hc : s.grid.contains (viewWorld s a i j)
    · exact Or.inl (Grid.at_of_not_contains _ _ hc)
    · exact Or.inr ⟨rfl, rfl⟩
  · exact Or.inl rfl

/-- cells of the view falling outside the grid are Hidden -/
theorem C05_outside_hidden (V : Grid → Pos → Except PyErr Mask) (s : State) (a : Area) (ha : a.WF)
    (o : Obs) (h : fromVisibility V s a = .ok o) (i j : Nat) (hi : i < a.height) (hj : j < a.width)
    (hout : s.grid.contains (viewWorld s a i j) = false) : o.grid.cell i j = .hidden := by
  rcases C05_cell V s a ha o h i j hi hj with h1 | ⟨h1, _⟩
  · exact h1
  · rw [hout] at h1; cases h1

/-- the observation's agent: at the view's anchor cell, facing forward, same held item -/
theorem C05_agent (V : Grid → Pos → Except PyErr Mask) (s : State) (a : Area) (o : Obs)
    (h : fromVisibility V s a = .ok o) :
    o.agent = ⟨⟨-a.ymin, -a.xmin⟩, .F, s.agent.held⟩ := by
  obtain ⟨m, -, rfl⟩ := fromVisibility_ok h
  rfl

/-- the anchor cell of the view is the agent's own world cell -/
theorem C05_anchor (s : State) (a : Area) (hy : a.ymin ≤ 0) (hx : a.xmin ≤ 0) :
    viewWorld s a (-a.ymin).toNat (-a.xmin).toNat = s.agent.pos := by
  unfold viewWorld Transform.act Agent.transform
  have h1 : a.ymin + ((-a.ymin).toNat : Int) = 0 := by omega
  have h2 : a.xmin + ((-a.xmin).toNat : Int) = 0 := by omega
  simp only [h1, h2, C18_act_zero, Pos.add_zero]

/-- with the fully transparent function every in-grid cell of the view is shown, and the
observation always exists -/
theorem C05_transparent_complete (s : State) (a : Area) (ha : a.WF) :
    ∃ o, fromVisibility (fun g p => .ok (visFullyTransparent g p)) s a = .ok o ∧
      ∀ i j, i < a.height → j < a.width → o.grid.cell i j = s.grid.at (viewWorld s a i j) := by
  refine ⟨_, rfl, ?_⟩
  intro i j hi hj
  show (applyMask (premask s a) _).cell i j = _
  rw [applyMask_premask s a ha, Grid.cell_tab _ _ _ _ _ hi hj]
  rfl

/-- the two documented refusals: the flood-fill view needs the agent on its bottom row, the
ray-traced views need the agent inside the view -/
theorem C05_errors (s : State) (a : Area) (ha : a.WF) (rays : List Ray) :
    (a.ymax ≠ 0 → fromVisibility visPartiallyOccluded s a = .error .notImplemented) ∧
    (a.ymax = 0 → ∃ o, fromVisibility visPartiallyOccluded s a = .ok o) ∧
    ((premask s a).contains (povPos a) = false →
      fromVisibility (visRaytracingChecked rays) s a = .error .valueError) ∧
    ((premask s a).contains (povPos a) = true →
      ∃ o, fromVisibility (visRaytracingChecked rays) s a = .ok o) := by
  -- the agent stands on row `-ymin` of the view, whose bottom row is `ymax - ymin`
  have hH : ((premask s a).h : Int) = a.ymax - a.ymin + 1 := by
    rw [(premask_shape s a).1]; exact (Area.height_cast a ha).1
  simp only [fromVisibility_eq, visPartiallyOccluded, visRaytracingChecked]
  refine ⟨fun hy => ?_, fun hy => ?_, fun hc => ?_, fun hc => ?_⟩
  · rw [if_pos (by simp only [povPos]; omega)]; rfl
  · rw [if_neg (by simp only [povPos]; omega)]; exact ⟨_, rfl⟩
  · rw [hc]; rfl
  · rw [hc]; exact ⟨_, rfl⟩

/-! ### non-vacuity: the shipped 7×7 view on a 3×4 grid, most of it outside the grid -/
example :
    let s : State := ⟨⟨3, 4, [[.wall, .wall, .wall, .wall], [.wall, .floor, .key .yellow, .wall],
      [.wall, .door .locked .yellow, .wall, .wall]]⟩, ⟨⟨1, 1⟩, .R, .noneObj⟩⟩
    let a : Area := ⟨-6, 0, -3, 3⟩
    a.WF ∧ viewWorld s a 6 3 = ⟨1, 1⟩ ∧ viewWorld s a 5 3 = ⟨1, 2⟩ ∧ viewWorld s a 6 4 = ⟨2, 1⟩ ∧
    (premask s a).cell 5 3 = .key .yellow ∧ (premask s a).cell 6 4 = .door .locked .yellow ∧
    (premask s a).cell 0 0 = .hidden := by decide +kernel

end GV
