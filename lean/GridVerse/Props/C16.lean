/-
  C16 — Numeric representations are faithful: lossless, positional and well-separated.

  "Two states (or observations) of a space have equal representations if and only if they are
  equal, and equal ones hash alike; the entry for grid cell (y, x) depends only on the object in
  that cell and is the same encoding at every cell, and the agent marker is set exactly at the
  agent's cell. The default encoding is the (type, status, colour) index triple, the no-overlap
  encoding uses pairwise disjoint value ranges for its three channels, and the compact encoding
  additionally leaves no gaps: the values it uses are consecutive from zero."

  "Equal" is Python equality of grid objects (`Obj.pyEq`: type, status, colour — a box's content is
  not part of it, which is why boxes are excluded from state representations).
-/
import GridVerse.Props.C15
namespace GV

/-- the default encoding is the index triple -/
theorem C16_default_triple (c : ReprCtx) (o : Obj) :
    objConvert .default c o = .ok [(o.kind.typeIndex : Int), (o.stateIndex : Int), (o.color.value : Int)] := rfl

/-- Python equality is equality of the triple, and equal objects hash alike -/
theorem C16_pyEq_iff (a b : Obj) :
    a.pyEq b = true ↔ (a.kind.typeIndex = b.kind.typeIndex ∧ a.stateIndex = b.stateIndex ∧
      a.color.value = b.color.value) := by
  simp [Obj.pyEq, Obj.hashKey]

theorem C16_eq_hash (a b : Obj) (h : a.pyEq b = true) : a.hashKey = b.hashKey := by
  simpa [Obj.pyEq] using h

theorem C16_pyEq_equiv : (∀ a : Obj, a.pyEq a = true) ∧ (∀ a b : Obj, a.pyEq b = true → b.pyEq a = true) ∧
    (∀ a b c : Obj, a.pyEq b = true → b.pyEq c = true → a.pyEq c = true) := by
  refine ⟨fun a => by simp [Obj.pyEq], fun a b h => ?_, fun a b c h1 h2 => ?_⟩
  · simp only [Obj.pyEq, beq_iff_eq] at h ⊢; exact h.symm
  · simp only [Obj.pyEq, beq_iff_eq] at h1 h2 ⊢; exact h1.trans h2

theorem compactType_inj (c : ReprCtx) (a b : Kind) (ha : a ∈ c.kinds) (hb : b ∈ c.kinds)
    (h : c.compactType a = c.compactType b) : a = b := by
  obtain ⟨i, hi, _⟩ := indexOf?_mem (mem_sortedKinds.mpr ha)
  obtain ⟨j, hj, _⟩ := indexOf?_mem (mem_sortedKinds.mpr hb)
  simp only [ReprCtx.compactType, hi, hj] at h
  have : i = j := by omega
  subst this
  exact indexOf?_inj hi hj

theorem compactColor_inj (c : ReprCtx) (a b : Color) (ha : a ∈ c.colors) (hb : b ∈ c.colors)
    (h : c.compactColor a = c.compactColor b) : a = b := by
  obtain ⟨i, hi, _⟩ := indexOf?_mem (mem_sortedColors.mpr ha)
  obtain ⟨j, hj, _⟩ := indexOf?_mem (mem_sortedColors.mpr hb)
  simp only [ReprCtx.compactColor, hi, hj] at h
  have : i = j := by omega
  subst this
  exact indexOf?_inj hi hj

/-- the compact encoding is lossless on the objects of the context: the type and colour codes are
injective there, and within one kind the status code is the state index plus an offset -/
theorem C16_obj_injective_compact (c : ReprCtx) (a b : Obj) (ha : InCtx c a) (hb : InCtx c b) :
    objConvert .compact c a = objConvert .compact c b ↔ a.pyEq b = true := by
  rw [objConvert_compact c a ha, objConvert_compact c b hb, C16_pyEq_iff]
  simp only [Except.ok.injEq, List.cons.injEq, and_true]
  constructor
  · rintro ⟨h1, h2, h3⟩
    have hk := compactType_inj c _ _ ha.1 hb.1 h1
    have hc := compactColor_inj c _ _ ha.2 hb.2 h3
    refine ⟨by rw [hk], ?_, by rw [hc]⟩
    -- same kind, so the two status codes share their offset
    rw [c.compactState_eq ha.1 (stateIndex_lt_numStates a), c.compactState_eq hb.1 (stateIndex_lt_numStates b), hk] at h2
    omega
  · rintro ⟨h1, h2, h3⟩
    have hk := inj_of_getElem? Kind.all_typeIndex h1
    have hc := inj_of_getElem? Color.all_value h3
    rw [hk, h2, hc]; exact ⟨rfl, rfl, rfl⟩

/-- lossless per object, one statement for the three encodings: on objects of the context, equal
encodings iff Python-equal (default and no-overlap shift the index triple by fixed offsets) -/
theorem C16_obj_injective (enc : Enc) (c : ReprCtx) (a b : Obj) (ha : InCtx c a) (hb : InCtx c b) :
    objConvert enc c a = objConvert enc c b ↔ a.pyEq b = true := by
  cases enc
  case compact => exact C16_obj_injective_compact c a b ha hb
  all_goals
    rw [C16_pyEq_iff]
    simp only [objConvert, Except.ok.injEq, List.cons.injEq, and_true]
    omega

/-- no-overlap: the three channels use pairwise disjoint value ranges -/
theorem C16_noOverlap_disjoint (c : ReprCtx) (a b d : Obj) (hbk : b.kind ∈ c.kinds)
    (hac : a.kind ∈ c.kinds) (hbc : b.color ∈ c.colors) :
    -- type channel of any member < status channel of any member < colour channel of any object
    (a.kind.typeIndex : Int) < c.maxType + b.stateIndex + 1 ∧
    (c.maxType + b.stateIndex + 1 : Int) < c.maxType + c.maxState + d.color.value + 2 := by
  obtain ⟨_, h2, _⟩ := c.bounds b hbk hbc
  have : a.kind.typeIndex ≤ c.maxType := le_maxOf (List.mem_map_of_mem hac)
  constructor <;> omega

/-- compact: every value below the number of types (status slots, colours: the next two theorems) is
used by its channel — no gaps, consecutive from zero -/
theorem C16_compact_dense_types (c : ReprCtx) (v : Nat) (hv : v < c.sortedKinds.length) :
    ∃ k ∈ c.kinds, c.compactType k = v := by
  refine ⟨c.sortedKinds[v], mem_sortedKinds.mp (List.getElem_mem hv), ?_⟩
  simp only [ReprCtx.compactType, indexOf?_getElem (nodup_sortedKinds c) hv]

theorem C16_compact_dense_colors (c : ReprCtx) (v : Nat) (hv : v < c.sortedColors.length) :
    ∃ k ∈ c.colors, c.compactColor k = ((c.sortedKinds.length + c.totalStates + v : Nat) : Int) := by
  refine ⟨c.sortedColors[v], mem_sortedColors.mp (List.getElem_mem hv), ?_⟩
  simp only [ReprCtx.compactColor, indexOf?_getElem (nodup_sortedColors c) hv]

theorem C16_compact_dense_states (c : ReprCtx) (v : Nat) (hv : v < c.totalStates) :
    ∃ k ∈ c.kinds, ∃ j, j < k.numStates ∧ c.compactState k j = ((c.sortedKinds.length + v : Nat) : Int) := by
  obtain ⟨k, hk, j, hj, he⟩ := sum_slots (nodup_sortedKinds c) hv
  have hk := mem_sortedKinds.mp hk
  refine ⟨k, hk, j, hj, ?_⟩
  rw [c.compactState_eq hk hj, ReprCtx.statesBefore]
  omega

/-- all three together with the upper bounds of C15: the values used are exactly `0 … n-1` -/
theorem C16_compact_dense (c : ReprCtx) :
    (∀ v, v < c.sortedKinds.length → ∃ k ∈ c.kinds, c.compactType k = v) ∧
    (∀ v, v < c.totalStates → ∃ k ∈ c.kinds, ∃ j, j < k.numStates ∧
      c.compactState k j = ((c.sortedKinds.length + v : Nat) : Int)) ∧
    (∀ v, v < c.sortedColors.length → ∃ k ∈ c.colors,
      c.compactColor k = ((c.sortedKinds.length + c.totalStates + v : Nat) : Int)) :=
  ⟨C16_compact_dense_types c, C16_compact_dense_states c, C16_compact_dense_colors c⟩

/-- the compact maps depend on the *sets* of types and colours only, not on their enumeration order
(the code sorts) -/
theorem C16_compact_perm_invariant (c c' : ReprCtx) (hk : ∀ k, k ∈ c.kinds ↔ k ∈ c'.kinds)
    (hc : ∀ k, k ∈ c.colors ↔ k ∈ c'.colors) :
    c.sortedKinds = c'.sortedKinds ∧ c.sortedColors = c'.sortedColors ∧
    (∀ k, c.compactType k = c'.compactType k) ∧ (∀ k j, c.compactState k j = c'.compactState k j) ∧
    (∀ k, c.compactColor k = c'.compactColor k) := by
  have e1 : c.sortedKinds = c'.sortedKinds := filter_contains_congr _ hk
  have e2 : c.sortedColors = c'.sortedColors := filter_contains_congr _ hc
  refine ⟨e1, e2, ?_, ?_, ?_⟩
  · intro k; simp [ReprCtx.compactType, e1]
  · intro k j; simp [ReprCtx.compactState, ReprCtx.statesBefore, e1]
  · intro k; simp [ReprCtx.compactColor, ReprCtx.totalStates, e1, e2]

/-- entry (y, x) of the `grid` array is the encoding of the object in cell (y, x) — the same
encoding function at every cell -/
theorem C16_positional (enc : Enc) (c : ReprCtx) (g : Grid) (r : List (List (List Int)))
    (h : gridConvert enc c g = .ok r) (y x : Nat) (hy : y < g.h) (hx : x < g.w) :
    ∃ (h1 : y < r.length) (h2 : x < (r[y]).length), objConvert enc c (g.cell y x) = .ok ((r[y])[x]) := by
  obtain ⟨hl, hrows⟩ := (mapE_ok_iff _ _ _).mp h
  have h1 : y < r.length := by simpa [hl] using hy
  have hrow := hrows y (by simpa using hy) h1
  simp only [List.getElem_range] at hrow
  obtain ⟨hl2, hcells⟩ := (mapE_ok_iff _ _ _).mp hrow
  have h2 : x < (r[y]).length := by simpa [hl2] using hx
  have := hcells x (by simpa using hx) h2
  simp only [List.getElem_range] at this
  exact ⟨h1, h2, this⟩

/-- the agent marker is set exactly at the agent's cell -/
theorem C16_agent_marker (g : Grid) (p : Pos) (hp : g.contains p = true) :
    agentIdGrid g p = .ok ((List.range g.h).map fun i => (List.range g.w).map fun j =>
      if i = p.y.toNat ∧ j = p.x.toNat then (1 : Int) else 0) :=
  agentIdGrid_of_contains g p hp

/-- the `agent` array depends on the grid through its shape only, and the position and heading are
recoverable from it (fractions with the same positive denominator are equal iff the numerators are; the
one-hot block identifies the heading) -/
theorem C16_agent_array_injective (g g' : Grid) (a b : Agent) (hh : 2 ≤ g.h) (hw : 2 ≤ g.w)
    (eh : g'.h = g.h) (ew : g'.w = g.w) :
    agentArray g a = agentArray g' b ↔ a.pos = b.pos ∧ a.o = b.o := by
  have hne : ¬ (g.h = 1 ∨ g.w = 1) := by omega
  simp only [agentArray, eh, ew, hne, if_false, Except.ok.injEq, List.cons_append, List.nil_append,
    List.cons.injEq, Prod.mk.injEq, and_true]
  constructor
  · rintro ⟨h1, h2, h3⟩
    refine ⟨by rw [Pos.ext_iff']; omega, inj_of_getElem? Orient.all_value ?_⟩
    -- the entry at the heading's own index is 1 on the left, so it is 1 on the right
    have := List.map_inj_left.mp h3 a.o.value (List.mem_range.mpr (by cases a.o <;> decide))
    simp only [if_true, Prod.mk.injEq, and_true] at this
    exact Decidable.byContradiction fun hv => by rw [if_neg hv] at this; cases this
  · rintro ⟨hp, ho⟩
    rw [hp, ho]
    exact ⟨rfl, rfl, rfl⟩

/-! ### non-vacuity / the box caveat -/
example : (Obj.box .floor).pyEq (Obj.box (.key .red)) = true ∧ Kind.canBeRepresented .box = false := by
  decide
example :
    let c : ReprCtx := ReprCtx.ofObs ⟨3, 3, [.wall, .floor, .door], [.yellow]⟩
    c.sortedKinds = [.noneObj, .hidden, .floor, .wall, .door] ∧ c.totalStates = 7 ∧
    objConvert .compact c (.door .locked .yellow) = .ok [4, 11, 13] ∧
    objUpper .compact c = [4, 11, 13] := ⟨by decide, by decide, rfl, by decide⟩

end GV
