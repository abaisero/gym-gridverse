/-
  C12 — Rewards and termination mean what they say, and agree with each other.

  "Each built-in reward and termination component is a deterministic function of (state, action,
  next state) returning exactly its documented value: reaching an exit terminates and pays the
  on-reward iff the agent's next cell is an exit, bumping fires iff the attempted move targets a
  wall (or the agent ends on a moving obstacle), distance shaping has the sign of the change in
  distance, pick/drop and door rewards fire exactly on the corresponding change, the memory reward
  is good iff the exit's colour matches the beacon. A composite reward is the sum of its parts and
  composite termination the any/all of its parts, so an environment pays its exit reward on exactly
  the steps on which exit-termination fires."

  (Being functions in Lean, the components are deterministic functions of the triple by
  construction; that the *code* is — no hidden state, no draws — is the correspondence's and C02's
  business.)
-/
import GridVerse.Lemmas.Bfs
import GridVerse.Lemmas.Positions
import GridVerse.Props.C18
import GridVerse.Agree.Actions
import GridVerse.Agree.Orient
import GridVerse.Agree.Objects
namespace GV

/-- the agent stands inside a rectangular grid (asked of the next state: the atoms read its agent's cell) -/
def State.AgentIn (s : State) : Prop := s.grid.WF ∧ s.grid.contains s.agent.pos = true

/-! ### overlap family: reach_exit, bump_moving_obstacle (reward and termination) -/

theorem rewOverlap_eq (k : Kind) (on off : Int) (s' : State) (h : s'.AgentIn) :
    rewOverlap k on off s' = .ok (.int (if (s'.grid.at s'.agent.pos).kind = k then on else off)) := by
  simp [rewOverlap, Grid.pyGet_of_contains _ h.1 _ h.2, Obj.isKind]

theorem termOverlap_eq (k : Kind) (s' : State) (h : s'.AgentIn) :
    termOverlap k s' = .ok ((s'.grid.at s'.agent.pos).kind == k) := by
  simp [termOverlap, Grid.pyGet_of_contains _ h.1 _ h.2, Obj.isKind]

theorem C12_overlap_reward (k : Kind) (on off : Int) (s : State) (a : Action) (s' : State)
    (h : s'.AgentIn) :
    (RewAtom.overlap k on off).eval s a s' =
      .ok (.int (if (s'.grid.at s'.agent.pos).kind = k then on else off)) := rewOverlap_eq k on off s' h

theorem C12_reach_exit_reward (on off : Int) (s : State) (a : Action) (s' : State) (h : s'.AgentIn) :
    (RewAtom.reachExit on off).eval s a s' =
      .ok (.int (if (s'.grid.at s'.agent.pos).kind = .exit then on else off)) :=
  rewOverlap_eq .exit on off s' h

theorem C12_overlap_term (k : Kind) (s : State) (a : Action) (s' : State) (h : s'.AgentIn) :
    (TermFn.overlap k).eval s a s' = .ok ((s'.grid.at s'.agent.pos).kind == k) := by
  rw [TermFn.eval]; exact termOverlap_eq k s' h

theorem C12_reach_exit_term (s : State) (a : Action) (s' : State) (h : s'.AgentIn) :
    TermFn.reachExit.eval s a s' = .ok ((s'.grid.at s'.agent.pos).kind == .exit) := by
  rw [TermFn.eval]; exact termOverlap_eq .exit s' h

/-- the exit reward pays `on` on exactly the steps on which exit-termination fires -/
theorem C12_exit_consistent (on off : Int) (hne : on ≠ off) (s : State) (a : Action) (s' : State)
    (h : s'.AgentIn) :
    (RewAtom.reachExit on off).eval s a s' = .ok (.int on) ↔ TermFn.reachExit.eval s a s' = .ok true := by
  rw [C12_reach_exit_reward on off s a s' h, C12_reach_exit_term s a s' h]
  by_cases hk : (s'.grid.at s'.agent.pos).kind = .exit
  · simp [hk]
  · simp [hk, Ne.symm hne]

theorem C12_bump_obstacle (r : Int) (s : State) (a : Action) (s' : State) (h : s'.AgentIn) :
    (RewAtom.bumpObstacle r).eval s a s' =
      .ok (.int (if (s'.grid.at s'.agent.pos).kind = .obstacle then r else 0)) ∧
    TermFn.bumpObstacle.eval s a s' = .ok ((s'.grid.at s'.agent.pos).kind == .obstacle) :=
  ⟨rewOverlap_eq .obstacle r 0 s' h, by rw [TermFn.eval]; exact termOverlap_eq .obstacle s' h⟩

/-! ### bump_into_wall: the attempted move targets an in-grid wall -/

theorem C12_bump_wall (r : Int) (s : State) (a : Action) (s' : State) :
    (RewAtom.bumpWall r).eval s a s' =
      .ok (.int (if s.grid.contains (nextPos s.agent.pos s.agent.o a) = true ∧
                    s.grid.at (nextPos s.agent.pos s.agent.o a) = .wall then r else 0)) ∧
    TermFn.bumpWall.eval s a s' =
      .ok (decide (s.grid.contains (nextPos s.agent.pos s.agent.o a) = true ∧
                   s.grid.at (nextPos s.agent.pos s.agent.o a) = .wall)) := by
  -- both components test the same Boolean
  have hb : (s.grid.contains (nextPos s.agent.pos s.agent.o a) &&
      (s.grid.at (nextPos s.agent.pos s.agent.o a)).isKind .wall) =
      decide (s.grid.contains (nextPos s.agent.pos s.agent.o a) = true ∧
        s.grid.at (nextPos s.agent.pos s.agent.o a) = .wall) := by
    rw [Bool.eq_iff_iff]; simp [isKind_wall]
  simp only [RewAtom.eval, TermFn.eval, hb, decide_eq_true_eq, and_self]

/-- for a non-move action the "target" is the agent's own cell: never a wall for an agent standing
on a non-blocking cell (C08's invariant) -/
theorem C12_bump_wall_non_move (s : State) (a : Action) (s' : State) (hm : a.isMove = false)
    (hb : (s.grid.at s.agent.pos).blocksMovement = false) :
    TermFn.bumpWall.eval s a s' = .ok false := by
  rw [(C12_bump_wall 0 s a s').2, C18_nextPos_other _ _ a (by simpa [Action.isMove] using hm)]
  have : s.grid.at s.agent.pos ≠ .wall := by
    intro h; rw [h] at hb; cases hb
  simp [this]

theorem C12_getting_closer (d : Dist) (k : Kind) (closer further : Int) (s : State) (a : Action)
    (s' : State) (p p' : Pos) (hp : uniquePos s.grid k = .ok p) (hp' : uniquePos s'.grid k = .ok p') :
    (RewAtom.gettingCloser d k closer further).eval s a s' =
      .ok (.int (if d.cmpVal s'.agent.pos p' < d.cmpVal s.agent.pos p then closer
                 else if d.cmpVal s'.agent.pos p' > d.cmpVal s.agent.pos p then further else 0)) := by
  simp [RewAtom.eval, hp, hp']

/-- the squared Euclidean distance compares like the Euclidean distance the code computes
(`sqrt` is strictly monotone on non-negative reals — trusted for the float `math.sqrt`) and is
non-negative; the Manhattan value is the Manhattan distance itself -/
theorem C12_cmpVal (p q : Pos) :
    Dist.manhattan.cmpVal p q = (p.y - q.y).natAbs + (p.x - q.x).natAbs ∧
    Dist.euclidean.cmpVal p q = (p.y - q.y) * (p.y - q.y) + (p.x - q.x) * (p.x - q.x) ∧
    0 ≤ Dist.euclidean.cmpVal p q := by
  refine ⟨rfl, rfl, ?_⟩
  simp only [Dist.cmpVal, Pos.sqEuclid]
  have sq : ∀ z : Int, 0 ≤ z * z := by
    intro z
    rcases Int.le_total 0 z with h | h
    · exact Int.mul_nonneg h h
    · exact Int.mul_nonneg_of_nonpos_of_nonpos h h
  have h1 := sq (p.y - q.y)
  have h2 := sq (p.x - q.x)
  omega

theorem C12_proportional (k : Kind) (per : Int) (s : State) (a : Action) (s' : State) (p : Pos)
    (hp : uniquePos s'.grid k = .ok p) :
    (RewAtom.proportional .manhattan k per).eval s a s' = .ok (.int (per * Pos.manhattan s'.agent.pos p)) ∧
    (RewAtom.proportional .euclidean k per).eval s a s' = .ok (.sqrtMul per (Pos.sqEuclid s'.agent.pos p)) := by
  simp [RewAtom.eval, hp]

/-- the documented precondition of the distance rewards: exactly one object of the type -/
theorem C12_unique_iff (g : Grid) (k : Kind) (p : Pos) :
    uniquePos g k = .ok p ↔ (g.find fun o => o.isKind k) = [p] := by
  unfold uniquePos
  split
  · rename_i q h; rw [h]; simp
  · rename_i h
    constructor
    · intro hh; cases hh
    · intro hh; exact absurd hh (h p)

theorem C12_getting_closer_sp (k : Kind) (closer further : Int) (s : State) (a : Action) (s' : State)
    (p p' : Pos) (hp : uniquePos s.grid k = .ok p) (hp' : uniquePos s'.grid k = .ok p') :
    (RewAtom.gettingCloserSP k closer further).eval s a s' =
      .ok (.int (
        let c := cmpOptDist (shortestPath s.grid p s.agent.pos) (shortestPath s'.grid p' s'.agent.pos)
        if c < 0 then closer else if c > 0 then further else 0)) := by
  simp [RewAtom.eval, hp, hp']

/-! ### the shortest-path distance really is the graph distance (`dijkstra`)

`Walk g.freeCell src p n`: `p` is reached from `src` in `n` unit steps, each onto an in-grid cell that
does not block movement (the source is exempt, as `dijkstra` marks it visited whatever it holds).
`IsDist … d`: such a walk of length `d` exists and none shorter. -/

theorem C12_shortest_path_some (g : Grid) (src tgt : Pos) (d : Nat) :
    shortestPath g src tgt = some d ↔ IsDist g.freeCell src tgt d :=
  shortestPath_eq g src tgt ▸ bfsGo_some_iff g.freeCell g.positions
    (fun q hq => by
      rw [Grid.mem_positions]
      simp only [Grid.freeCell, Bool.and_eq_true] at hq
      exact hq.1)
    src tgt d (g.h * g.w + 1) 0 [src] [src] (BfsInv.init _ _ _ _)
    (by rw [Grid.positions_length]; omega)

/-- `inf` exactly when the target cannot be reached at all -/
theorem C12_shortest_path_none (g : Grid) (src tgt : Pos) :
    shortestPath g src tgt = none ↔ ∀ n, ¬ Walk g.freeCell src tgt n := by
  simp only [Option.eq_none_iff_forall_ne_some, ne_eq, C12_shortest_path_some]
  -- no distance iff no walk: a walk can be shortened to a shortest one
  exact ⟨fun h n hw => let ⟨d, _, hD⟩ := Walk.exists_isDist n hw; h d hD, fun h d hD => h d hD.1⟩

/-- `cmpOptDist` is the sign of the change of an `inf`-extended distance -/
theorem C12_cmpOptDist (x y : Option Nat) :
    (cmpOptDist x y < 0 ↔ (match x, y with | some a, some b => b < a | none, some _ => True | _, _ => False)) ∧
    (cmpOptDist x y > 0 ↔ (match x, y with | some a, some b => a < b | some _, none => True | _, _ => False)) := by
  cases x <;> cases y <;> simp only [cmpOptDist]
  case some.some a b => constructor <;> split <;> omega
  all_goals decide

/-- the shortest-path shaping reward has the sign of the change of the true graph distance: with
finite distances `d` before and `d'` after, it pays `closer` iff `d' < d`, `further` iff `d < d'`,
nothing when equal. -/
theorem C12_getting_closer_sp_sign (k : Kind) (closer further : Int) (s : State) (a : Action) (s' : State)
    (p p' : Pos) (hp : uniquePos s.grid k = .ok p) (hp' : uniquePos s'.grid k = .ok p') (d d' : Nat)
    (hd : IsDist s.grid.freeCell p s.agent.pos d) (hd' : IsDist s'.grid.freeCell p' s'.agent.pos d') :
    (RewAtom.gettingCloserSP k closer further).eval s a s' =
      .ok (.int (if d' < d then closer else if d < d' then further else 0)) := by
  rw [C12_getting_closer_sp k closer further s a s' p p' hp hp',
    (C12_shortest_path_some _ _ _ _).mpr hd, (C12_shortest_path_some _ _ _ _).mpr hd']
  have h := C12_cmpOptDist (some d) (some d')
  simp only [h.1, h.2]

/-- … and becoming reachable counts as closer, becoming unreachable as further -/
theorem C12_getting_closer_sp_inf (k : Kind) (closer further : Int) (s : State) (a : Action) (s' : State)
    (p p' : Pos) (hp : uniquePos s.grid k = .ok p) (hp' : uniquePos s'.grid k = .ok p') :
    ((∀ n, ¬ Walk s.grid.freeCell p s.agent.pos n) → (∃ n, Walk s'.grid.freeCell p' s'.agent.pos n) →
      (RewAtom.gettingCloserSP k closer further).eval s a s' = .ok (.int closer)) ∧
    ((∃ n, Walk s.grid.freeCell p s.agent.pos n) → (∀ n, ¬ Walk s'.grid.freeCell p' s'.agent.pos n) →
      (RewAtom.gettingCloserSP k closer further).eval s a s' = .ok (.int further)) ∧
    ((∀ n, ¬ Walk s.grid.freeCell p s.agent.pos n) → (∀ n, ¬ Walk s'.grid.freeCell p' s'.agent.pos n) →
      (RewAtom.gettingCloserSP k closer further).eval s a s' = .ok (.int 0)) := by
  rw [C12_getting_closer_sp k closer further s a s' p p' hp hp']
  -- once the two distances are known to be `none` / `some d`, `cmpOptDist` computes: -1, 1, 0
  refine ⟨?_, ?_, ?_⟩
  · intro h1 ⟨n, h2⟩
    obtain ⟨d, _, hD⟩ := Walk.exists_isDist n h2
    rw [(C12_shortest_path_none _ _ _).mpr h1, (C12_shortest_path_some _ _ _ _).mpr hD]
    rfl
  · intro ⟨n, h1⟩ h2
    obtain ⟨d, _, hD⟩ := Walk.exists_isDist n h1
    rw [(C12_shortest_path_none _ _ _).mpr h2, (C12_shortest_path_some _ _ _ _).mpr hD]
    rfl
  · intro h1 h2
    rw [(C12_shortest_path_none _ _ _).mpr h1, (C12_shortest_path_none _ _ _).mpr h2]
    rfl

/-- non-vacuity: around a wall the graph distance (4) exceeds the Manhattan distance (2) -/
example :
    let g : Grid := ⟨3, 3, [[.floor, .wall, .floor], [.floor, .wall, .floor], [.floor, .floor, .floor]]⟩
    shortestPath g ⟨1, 0⟩ ⟨1, 2⟩ = some 4 ∧ IsDist g.freeCell ⟨1, 0⟩ ⟨1, 2⟩ 4 := by
  intro g
  have h : shortestPath g ⟨1, 0⟩ ⟨1, 2⟩ = some 4 := by decide +kernel
  exact ⟨h, (C12_shortest_path_some _ _ _ _).mp h⟩

theorem C12_pickndrop_reward (k : Kind) (pick drop : Int) (s : State) (a : Action) (s' : State) :
    (RewAtom.pickndrop k pick drop).eval s a s' =
      .ok (.int (if s.agent.held.kind ≠ k ∧ s'.agent.held.kind = k then pick
                 else if s.agent.held.kind = k ∧ s'.agent.held.kind ≠ k then drop else 0)) := by
  simp only [RewAtom.eval, Obj.isKind]
  by_cases h1 : s.agent.held.kind = k <;> by_cases h2 : s'.agent.held.kind = k <;> simp [h1, h2]

/-- the door reward fires exactly when ACTUATE was used facing an in-grid door that went from
not-open to open (resp. open to not-open) -/
theorem C12_actuate_door_reward (ropen rclose : Int) (s : State) (a : Action) (s' : State)
    (hw' : s'.grid.WF) (hsh : s'.grid.h = s.grid.h ∧ s'.grid.w = s.grid.w) :
    (RewAtom.actuateDoor ropen rclose).eval s a s' =
      .ok (.int (
        if a = .actuate ∧ s.grid.contains s.agent.front = true then
          match s.grid.at s.agent.front, s'.grid.at s.agent.front with
          | .door st _, .door st' _ =>
            if st ≠ .open ∧ st' = .open then ropen else if st = .open ∧ st' ≠ .open then rclose else 0
          | _, _ => 0
        else 0)) := by
  simp only [RewAtom.eval]
  by_cases ha : a = .actuate
  · by_cases hc : s.grid.contains s.agent.front = true
    · have hc' : s'.grid.contains s.agent.front = true := (Grid.contains_congr hsh.1 hsh.2 _).trans hc
      simp only [ha, hc, if_true, true_and, Grid.pyGet_of_contains _ hw' _ hc']
      -- both sides look at the two cells only to see whether they hold doors, and of which status
      generalize s.grid.at s.agent.front = o
      generalize s'.grid.at s.agent.front = o'
      cases o with
      | door st c =>
        cases o' with
        | door st' c' => cases st <;> cases st' <;> rfl
        | _ => rfl
      | _ => rfl
    · simp [ha, hc]
  · simp [ha]

theorem C12_memory_reward (good bad : Int) (s : State) (a : Action) (s' : State) (h : s'.AgentIn)
    (bp : Pos) (rest : List Pos) (hb : (s'.grid.find fun b => b.isKind .beacon) = bp :: rest) :
    (RewAtom.reachExitMemory good bad).eval s a s' =
      .ok (.int (if (s'.grid.at s'.agent.pos).kind = .exit then
                   (if (s'.grid.at s'.agent.pos).color = (s'.grid.at bp).color then good else bad)
                 else 0)) := by
  simp only [RewAtom.eval, Grid.pyGet_of_contains _ h.1 _ h.2, hb]
  simp [Obj.isKind]

theorem C12_living (r : Int) (s : State) (a : Action) (s' : State) :
    (RewAtom.living r).eval s a s' = .ok (.int r) := rfl

/-- the composite reward lists exactly its parts' values, in order -/
theorem C12_sum_parts (fs : List RewAtom) (s : State) (a : Action) (s' : State) (ts : List RTerm)
    (h : rewParts fs s a s' = .ok ts) :
    ts.length = fs.length ∧ ∀ i (hi : i < fs.length) (hi' : i < ts.length),
      (fs[i]).eval s a s' = .ok (ts[i]) := by
  induction fs generalizing ts with
  | nil => simp only [rewParts, Except.ok.injEq] at h; subst h; exact ⟨rfl, fun i hi => absurd hi (by simp)⟩
  | cons f fs ih =>
    simp only [rewParts] at h
    split at h
    · cases h
    · rename_i t hf
      split at h
      · cases h
      · rename_i ts' hr
        cases h
        obtain ⟨hl, hi⟩ := ih ts' hr
        refine ⟨by simp [hl], fun i h1 h2 => ?_⟩
        cases i with
        | zero => simpa using hf
        | succ j => simpa using hi j (by simpa using h1) (by simpa using h2)

/-- … and every part evaluating makes the composite evaluate -/
theorem C12_sum_total (fs : List RewAtom) (s : State) (a : Action) (s' : State)
    (h : ∀ f ∈ fs, ∃ t, f.eval s a s' = .ok t) : ∃ ts, rewParts fs s a s' = .ok ts := by
  induction fs with
  | nil => exact ⟨[], rfl⟩
  | cons f fs ih =>
    obtain ⟨t, ht⟩ := h f (by simp)
    obtain ⟨ts, hts⟩ := ih (fun g hg => h g (by simp [hg]))
    exact ⟨t :: ts, by simp [rewParts, ht, hts]⟩

/-- Python's `sum`: the left fold of `+` from 0 -/
theorem C12_sum_value (ns : List Int) : sumInts (ns.map RTerm.int) = some (ns.foldl (· + ·) 0) := by
  have key : ∀ (acc : Int), (ns.map RTerm.int).foldl addTerm (some acc) = some (ns.foldl (· + ·) acc) := by
    induction ns with
    | nil => intro acc; rfl
    | cons n ns ih => intro acc; simp only [List.map_cons, List.foldl_cons, addTerm]; exact ih (acc + n)
  exact key 0

def TermFn.fires (s : State) (a : Action) (s' : State) (f : TermFn) : Bool :=
  match f.eval s a s' with
  | .ok true => true
  | _ => false

/-- composite termination is the `any` / `all` of its parts -/
theorem C12_any (l : List TermFn) (s : State) (a : Action) (s' : State)
    (h : ∀ f ∈ l, ∃ b, f.eval s a s' = .ok b) :
    (TermFn.any l).eval s a s' = .ok (l.any (TermFn.fires s a s')) := by
  simp only [TermFn.eval]
  induction l with
  | nil => rfl
  | cons f fs ih =>
    obtain ⟨b, hb⟩ := h f (by simp)
    simp only [TermFn.evalAny, hb, List.any_cons, TermFn.fires]
    cases b
    · simp only [Bool.false_or]
      exact ih (fun g hg => h g (by simp [hg]))
    · simp

theorem C12_all (l : List TermFn) (s : State) (a : Action) (s' : State)
    (h : ∀ f ∈ l, ∃ b, f.eval s a s' = .ok b) :
    (TermFn.all l).eval s a s' = .ok (l.all (TermFn.fires s a s')) := by
  simp only [TermFn.eval]
  induction l with
  | nil => rfl
  | cons f fs ih =>
    obtain ⟨b, hb⟩ := h f (by simp)
    simp only [TermFn.evalAll, hb, List.all_cons, TermFn.fires]
    cases b
    · simp
    · simp only [Bool.true_and]
      exact ih (fun g hg => h g (by simp [hg]))

/-- so: an environment whose termination is `reach_exit` (possibly inside a `reduce_any` of total
parts) and whose reward list contains `reach_exit on off` pays `on` exactly when the exit part of
the termination fires -/
theorem C12_exit_consistent_any (l : List TermFn) (hmem : TermFn.reachExit ∈ l) (on off : Int)
    (hne : on ≠ off) (s : State) (a : Action) (s' : State) (h : s'.AgentIn)
    (htot : ∀ f ∈ l, ∃ b, f.eval s a s' = .ok b)
    (hpay : (RewAtom.reachExit on off).eval s a s' = .ok (.int on)) :
    (TermFn.any l).eval s a s' = .ok true := by
  rw [C12_any l s a s' htot]
  have := (C12_exit_consistent on off hne s a s' h).mp hpay
  congr 1
  rw [List.any_eq_true]
  exact ⟨.reachExit, hmem, by simp [TermFn.fires, this]⟩

example :
    let s' : State := ⟨⟨1, 3, [[.floor, .exit .none, .beacon .red]]⟩, ⟨⟨0, 1⟩, .R, .noneObj⟩⟩
    s'.AgentIn ∧ uniquePos s'.grid .exit = .ok ⟨0, 1⟩ ∧
    TermFn.reachExit.eval s' .moveF s' = .ok true := by
  exact ⟨⟨(Grid.wfb_iff _).mp rfl, by decide +kernel⟩, by rfl, by rfl⟩

end GV
