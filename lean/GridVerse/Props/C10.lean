/-
  C10 — Doors, keys and boxes respond only to a faced ACTUATE, and only as documented.

  "A door's status changes only when the agent uses ACTUATE while facing it, and then only towards
  open: a closed door opens, a locked door opens if and only if the agent holds a key of the door's
  colour, and an open door stays open; a box changes only when actuated while faced and is then
  replaced by its content. No other action, position or held item affects doors or boxes, and keys
  are not consumed."
-/
import GridVerse.Lemmas.Atoms
import GridVerse.Agree.Objects
import GridVerse.Agree.Actions
namespace GV

/-- One primitive transition and a cell holding a door: the door is untouched, unless the
transition is `actuate_door`, the action ACTUATE, the agent faces that cell, and the door was closed
or was locked with the matching key in hand — and then it is the same door, open. -/
theorem C10_door_atom (f : TransAtom) (s s' : State) (a : Action) (d d' : DrawSt) (hw : s.grid.WF)
    (q : Pos) (st : DoorStatus) (c : Color) (hq : s.grid.at q = .door st c)
    (h : f.run s a d = .ok (s', d')) :
    s'.grid.at q = .door st c ∨
    (f = .actuateDoor ∧ a = .actuate ∧ s.agent.front = q ∧ s'.grid.at q = .door .open c ∧
      (st = .closed ∨ (st = .locked ∧ s.agent.held = .key c))) := by
  have hc := (run_step h).cell hw q
  rw [hq] at hc
  rcases hc with h | ⟨h, _⟩ | ⟨h, _⟩ | ⟨rfl, ⟨_, h, _⟩ | ⟨rfl, st', c', hf, h⟩ | ⟨_, _, h⟩⟩
  · exact Or.inl h
  · cases h
  · cases h
  · rcases h with h | h <;> cases h
  · -- the door that fired is the one the cell holds
    cases hq.symm.trans hf.door
    exact Or.inr ⟨rfl, hf.act, rfl, h, hf.opens⟩
  · cases h

/-- `actuate_door` itself: the faced door's status changes iff ACTUATE on a closed door, or on a
locked door with the matching key; the result is open -/
theorem C10_door_change_iff (s : State) (a : Action) (hw : s.grid.WF) (q : Pos) (st : DoorStatus)
    (c : Color) (hc : s.grid.contains q = true) (hq : s.grid.at q = .door st c) :
    ((actuateDoor s a).grid.at q ≠ .door st c ↔
      (a = .actuate ∧ s.agent.front = q ∧ (st = .closed ∨ (st = .locked ∧ s.agent.held = .key c)))) ∧
    ((actuateDoor s a).grid.at q ≠ .door st c → (actuateDoor s a).grid.at q = .door .open c) := by
  -- `actuate_door` run as a primitive transition: it draws nothing, any draw state will do
  have key := C10_door_atom .actuateDoor s (actuateDoor s a) a ⟨[], []⟩ ⟨[], []⟩ hw q st c hq rfl
  constructor
  · constructor
    · intro hne
      rcases key with h | ⟨_, h1, h2, _, h4⟩
      · exact absurd h hne
      · exact ⟨h1, h2, h4⟩
    · -- the transition fires, and the open door it leaves differs from the closed or locked one
      rintro ⟨rfl, rfl, hst⟩
      rw [actuateDoor_fires ⟨rfl, hc, hq, hst⟩, Grid.at_setP _ hw _ _ hc, if_pos rfl]
      rcases hst with rfl | ⟨rfl, _⟩ <;> exact fun h => nomatch h
  · intro hne
    rcases key with h | ⟨_, _, _, h3, _⟩
    · exact absurd h hne
    · exact h3

/-- an open door stays open under every transition, action and held item -/
theorem C10_open_stays_open (f : TransAtom) (s s' : State) (a : Action) (d d' : DrawSt)
    (hw : s.grid.WF) (q : Pos) (c : Color) (hq : s.grid.at q = .door .open c)
    (h : f.run s a d = .ok (s', d')) : s'.grid.at q = .door .open c := by
  rcases C10_door_atom f s s' a d d' hw q .open c hq h with h | ⟨_, _, _, _, h | ⟨h, _⟩⟩
  · exact h
  · cases h
  · cases h

/-- a locked door stays locked unless the agent holds the key of its colour -/
theorem C10_locked_needs_key (f : TransAtom) (s s' : State) (a : Action) (d d' : DrawSt)
    (hw : s.grid.WF) (q : Pos) (c : Color) (hq : s.grid.at q = .door .locked c)
    (hk : s.agent.held ≠ .key c) (h : f.run s a d = .ok (s', d')) :
    s'.grid.at q = .door .locked c := by
  rcases C10_door_atom f s s' a d d' hw q .locked c hq h with h | ⟨_, _, _, _, h | ⟨_, h⟩⟩
  · exact h
  · cases h
  · exact absurd h hk

/-- keys are not consumed: `actuate_door` never touches the agent -/
theorem C10_key_kept (s : State) (a : Action) : (actuateDoor s a).agent = s.agent := by
  rcases actuateDoor_cases s a with he | ⟨st, c, hf⟩
  · rw [he]
  · rw [actuateDoor_fires hf]

/-- One primitive transition and a cell holding a box: untouched, unless `actuate_box` with ACTUATE
while facing it, and then the cell holds the box's content. -/
theorem C10_box_atom (f : TransAtom) (s s' : State) (a : Action) (d d' : DrawSt) (hw : s.grid.WF)
    (q : Pos) (b : Obj) (hq : s.grid.at q = .box b) (h : f.run s a d = .ok (s', d')) :
    s'.grid.at q = .box b ∨
    (f = .actuateBox ∧ a = .actuate ∧ s.agent.front = q ∧ s'.grid.at q = b) := by
  have hc := (run_step h).cell hw q
  rw [hq] at hc
  rcases hc with h | ⟨h, _⟩ | ⟨h, _⟩ | ⟨rfl, ⟨_, h, _⟩ | ⟨_, _, _, hf, _⟩ | ⟨rfl, rfl, hb⟩⟩
  · exact Or.inl h
  · cases h
  · cases h
  · rcases h with h | h <;> cases h
  · cases hq.symm.trans hf.door
  · exact Or.inr ⟨rfl, rfl, rfl, (Obj.box.inj hb).symm⟩

/-- a faced box is opened by ACTUATE -/
theorem C10_box_opens (s : State) (b : Obj) (hw : s.grid.WF)
    (hc : s.grid.contains s.agent.front = true) (hq : s.grid.at s.agent.front = .box b) :
    (actuateBox s .actuate).grid.at s.agent.front = b := by
  rw [actuateBox_fires hc hq, Grid.at_setP _ hw _ _ hc, if_pos rfl]

/-- Along any sequence of primitive transitions (any composition, any actions, any draws): if a cell
holds a locked door of colour `c` at the start and no longer does at the end, then at some point in
between `actuate_door` ran with ACTUATE while the agent faced that cell holding the key of colour
`c`, the door still being locked. -/
theorem C10_history (l : List (TransAtom × Action)) (s s' : State) (d d' : DrawSt) (hw : s.grid.WF)
    (q : Pos) (c : Color) (hq : s.grid.at q = .door .locked c)
    (h : runAtoms l s d = .ok (s', d')) (hopen : s'.grid.at q ≠ .door .locked c) :
    ∃ l1 l2 s1 d1, l = l1 ++ (.actuateDoor, .actuate) :: l2 ∧ runAtoms l1 s d = .ok (s1, d1) ∧
      s1.agent.front = q ∧ s1.agent.held = .key c ∧ s1.grid.at q = .door .locked c := by
  induction l generalizing s d with
  | nil => cases h; exact absurd hq hopen
  | cons fa l ih =>
    obtain ⟨f, a⟩ := fa
    obtain ⟨s1, d1, hr, h⟩ := runAtoms_cons_ok.mp h
    rcases C10_door_atom f s s1 a d d1 hw q .locked c hq hr with hstay | ⟨hf, ha, hfront, _, hst⟩
    · -- still locked after this transition: the witness lies in the tail
      obtain ⟨l1, l2, s2, d2, hl, hrun, h1, h2, h3⟩ :=
        ih s1 d1 ((run_step hr).shape hw).1 hstay h
      exact ⟨(f, a) :: l1, l2, s2, d2, by rw [hl]; rfl, runAtoms_cons_ok.mpr ⟨s1, d1, hr, hrun⟩, h1, h2, h3⟩
    · -- this transition opened it
      subst hf; subst ha
      rcases hst with h0 | ⟨_, hk⟩
      · cases h0
      · exact ⟨[], l, s, d, rfl, rfl, hfront, hk, hq⟩

/-! ### non-vacuity: the key-door situation of the shipped environments -/
example :
    let s : State := ⟨⟨3, 4, [[.wall, .wall, .wall, .wall], [.floor, .floor, .door .locked .yellow, .exit .none],
      [.wall, .wall, .wall, .wall]]⟩, ⟨⟨1, 1⟩, .R, .key .yellow⟩⟩
    s.grid.WF ∧ s.grid.at ⟨1, 2⟩ = .door .locked .yellow ∧ s.agent.front = ⟨1, 2⟩ ∧
    (actuateDoor s .actuate).grid.at ⟨1, 2⟩ = .door .open .yellow ∧
    (actuateDoor { s with agent := { s.agent with held := .key .red } } .actuate).grid.at ⟨1, 2⟩ = .door .locked .yellow := by
  exact ⟨(Grid.wfb_iff _).mp rfl, by decide +kernel, by decide +kernel, by decide +kernel, by decide +kernel⟩

end GV
