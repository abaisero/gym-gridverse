/-
  Agreement of the generated orientation tables (read from the live `geometry` module) with the
  tables of the model.  A change to the source tables changes `Generated/Tables.lean`, and the
  corresponding `decide` below stops closing.
-/
import GridVerse.Generated.Tables
namespace GV.Agree

theorem agree_orientMul :
    Gen.orientMul = Orient.all.flatMap fun a => Orient.all.map fun b => (a, b, a.mul b) := by decide +kernel
theorem agree_orientNeg : Gen.orientNeg = Orient.all.map fun a => (a, a.neg) := by decide +kernel
theorem agree_posFromOrient : Gen.posFromOrient = Orient.all.map fun a => (a, Pos.ofOrient a) := by
  decide +kernel
theorem agree_orientValue : Gen.orientValue = Orient.all.map fun a => (a, a.value) := by decide +kernel
theorem agree_orientAct : Gen.orientActSamples.all (fun t => t.1.act t.2.1 == t.2.2) = true := by
  decide +kernel
theorem agree_orientActCovers : Gen.orientActSamples.map (·.1) = Orient.all.flatMap fun a => [a, a, a, a] := by
  decide +kernel
theorem agree_orientArea : Gen.orientAreaSamples.all (fun t => t.1.actArea t.2.1 == t.2.2) = true := by
  decide +kernel
theorem agree_orientAreaCovers : Gen.orientAreaSamples.map (·.1) = Orient.all.flatMap fun a => [a, a] := by
  decide +kernel

end GV.Agree
