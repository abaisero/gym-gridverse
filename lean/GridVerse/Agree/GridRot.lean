/-
  Agreement of the grid-rotation table with the model's index-defined rotations.
-/
import GridVerse.Generated.Tables
namespace GV.Agree

/-- `_grid_rotation_functions`, each entry classified by the extractor against the index-defined
rotations: F ↦ identity, R ↦ rotate-left, B ↦ backward, L ↦ rotate-right -/
theorem agree_gridRot :
    Gen.gridRot = [(.F, Rot.ident), (.B, Rot.backward), (.L, Rot.right), (.R, Rot.left)] := by decide +kernel
theorem agree_gridRot_model (o : Orient) (g : Grid) :
    (Gen.gridRot.lookup o).map (fun r => Grid.applyRot r g) = some (Grid.rot o g) := by
  cases o <;> rfl

end GV.Agree
