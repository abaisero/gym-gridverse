/-
  The registries extracted from the live modules (names, required and optional keyword parameters
  exactly as each `factory()` computes them through `inspect.signature`), the registered grid-object
  class names, colour and action names equal what the model expects.
-/
import GridVerse.Generated.Configs
namespace GV.Agree

theorem agree_regs_reset : Gen.regs.reset = expectedRegs.reset := rfl
theorem agree_regs_transition : Gen.regs.transition = expectedRegs.transition := rfl
theorem agree_regs_reward : Gen.regs.reward = expectedRegs.reward := rfl
theorem agree_regs_observation : Gen.regs.observation = expectedRegs.observation := rfl
theorem agree_regs_visibility : Gen.regs.visibility = expectedRegs.visibility := rfl
theorem agree_regs_terminating : Gen.regs.terminating = expectedRegs.terminating := rfl
theorem agree_regs_names :
    Gen.regs.objects = expectedRegs.objects ∧ Gen.regs.colors = expectedRegs.colors ∧
    Gen.regs.actions = expectedRegs.actions := ⟨rfl, rfl, rfl⟩

end GV.Agree
