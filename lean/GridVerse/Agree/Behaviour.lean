/-
  Agreement of tables obtained by *running* the library's public functions over their complete finite
  domains (orientation product and inverse, tentative next position from the origin for every heading
  and action, `turn_agent` for every heading and action) with what the model computes.  Unlike the
  tables in Agree/Orient.lean and Agree/Actions.lean these do not depend on how the library stores the
  information (private lookup tables), only on what it computes.
-/
import GridVerse.Generated.Tables
import GridVerse.Model.Transition
namespace GV.Agree

theorem agree_orientMulB :
    Gen.orientMulB = Orient.all.flatMap fun a => Orient.all.map fun b => (a, b, a.mul b) := by decide +kernel
theorem agree_orientNegB : Gen.orientNegB = Orient.all.map fun a => (a, a.neg) := by decide +kernel
theorem agree_nextPosB :
    Gen.nextPosB = Orient.all.flatMap fun o => Action.all.map fun a => (o, a, nextPos ⟨0, 0⟩ o a) := by decide +kernel
theorem agree_turnB :
    Gen.turnB = Orient.all.flatMap fun o => Action.all.map fun a =>
      (o, a, (turnAgent ⟨⟨1, 1, [[.floor]]⟩, ⟨⟨0, 0⟩, o, .noneObj⟩⟩ a).agent.o) := by decide +kernel

end GV.Agree
