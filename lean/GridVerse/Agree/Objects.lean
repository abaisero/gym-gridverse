/-
  Agreement of the generated object tables (type indices, state counts, flags, colour and status
  values, default constructors) with the model's `Kind` / `Obj` functions.
-/
import GridVerse.Generated.Tables
namespace GV.Agree

theorem agree_kindTable :
    Gen.kindTable = Kind.all.map fun k => (k, k.typeIndex, k.numStates, k.canBeRepresented) := by
  decide +kernel
theorem agree_registrySize : Gen.registrySize = Kind.all.length := by decide +kernel
theorem agree_colorValue : Gen.colorValue = Color.all.map fun c => (c, c.value) := by decide +kernel
theorem agree_statusValue : Gen.statusValue = DoorStatus.all.map fun s => (s, s.value) := by decide +kernel
theorem agree_kindDefault : Gen.kindDefault = Kind.all.map fun k => (k, k.default?) := by decide +kernel
/-- flags, state index, colour value and type index of every object of the alphabet -/
theorem agree_objFlags :
    Gen.objFlags.all (fun t =>
      t.2.1 == t.1.blocksMovement && t.2.2.1 == t.1.blocksVision && t.2.2.2.1 == t.1.holdable &&
      t.2.2.2.2.1 == t.1.stateIndex && t.2.2.2.2.2.1 == t.1.color.value &&
      t.2.2.2.2.2.2 == t.1.kind.typeIndex) = true := by decide +kernel
/-- the alphabet covers every constructor with every status and colour -/
theorem agree_objFlags_covers :
    (Kind.all.all fun k => Gen.objFlags.any fun t => t.1.kind == k) = true ∧
    (DoorStatus.all.all fun s => Color.all.all fun c => Gen.objFlags.any fun t => t.1 == .door s c) = true ∧
    (Color.all.all fun c => Gen.objFlags.any fun t => t.1 == .key c) = true := by decide +kernel

end GV.Agree
