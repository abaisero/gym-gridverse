/-
  Agreement of `get_manhattan_boundary` at distances 1 and 3, as run by the extractor, with the model.
-/
import GridVerse.Generated.Tables
namespace GV.Agree

theorem agree_boundary1 : Gen.boundary1 = manhattanBoundary ⟨0, 0⟩ 1 := by decide +kernel
theorem agree_boundary3 : Gen.boundary3 = manhattanBoundary ⟨0, 0⟩ 3 := by decide +kernel

end GV.Agree
