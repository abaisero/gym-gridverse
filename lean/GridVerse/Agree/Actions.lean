/-
  Agreement of the generated action tables (enum values, move / turn orientation, classification)
  with the model's `Action` functions.
-/
import GridVerse.Generated.Tables
namespace GV.Agree

theorem agree_actionValue : Gen.actionValue = Action.all.map fun a => (a, a.value) := by decide +kernel
theorem agree_moveActionOrient : Gen.moveActionOrient = Action.all.map fun a => (a, a.moveOrient) := by
  decide +kernel
theorem agree_turnActionOrient : Gen.turnActionOrient = Action.all.map fun a => (a, a.turnOrient) := by
  decide +kernel
theorem agree_actionClass : Gen.actionClass = Action.all.map fun a => (a, a.isMove, a.isTurn) := by
  decide +kernel

end GV.Agree
